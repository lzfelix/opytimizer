import OpyVerif.Generated.Constants
import OpyVerif.Generated.Skeletons
import OpyVerif.Generated.Guards
import OpyVerif.Generated.Accepts
import OpyVerif.Generated.Ops
import OpyVerif.Generated.FormulasC13
import OpyVerif.Generated.FormulasC15
import OpyVerif.Generated.FormulasC16
import OpyVerif.Generated.FormulasC17
import OpyVerif.Generated.FormulasC18
import OpyVerif.Generated.ClipLoops
import OpyVerif.Generated.Budget
import OpyVerif.Generated.Sweeps
import OpyVerif.Generated.Effects
import OpyVerif.Generated.Walks
import OpyVerif.Generated.Repro
import OpyVerif.Generated.PopLoops
import OpyVerif.Generated.Create
import OpyVerif.Generated.Persist
import OpyVerif.Generated.Trees
import OpyVerif.Generated.GPRun
import OpyVerif.Generated.Find
import OpyVerif.Proofs.FindProg
import OpyVerif.Proofs.FindCode
import OpyVerif.Generated.Props
import OpyVerif.Proofs.BfsProg
import OpyVerif.Proofs.PropsCode
import OpyVerif.Generated.Select
import OpyVerif.Proofs.SelectProg
import OpyVerif.Generated.HeapOps
import OpyVerif.Proofs.Heap
import OpyVerif.Proofs.HeapCode
import OpyVerif.Generated.Grow
import OpyVerif.Proofs.GrowProg
import OpyVerif.Proofs.GrowCode
import OpyVerif.Proofs.EvalProg
import OpyVerif.Proofs.EvalCode
import OpyVerif.Generated.Init
import OpyVerif.Proofs.InitProg
import OpyVerif.Proofs.InitCode
import OpyVerif.Generated.HistProg
import OpyVerif.Proofs.HistCode
import OpyVerif.Proofs.Forest
import OpyVerif.Proofs.ReproProg
import OpyVerif.Proofs.ReproCode
import OpyVerif.Proofs.PopLoops
import OpyVerif.Proofs.PopLoopsCode
import OpyVerif.Proofs.CreateProg
import OpyVerif.Proofs.CreateCode
import OpyVerif.Proofs.PersistProg
import OpyVerif.Proofs.PersistCode
import OpyVerif.Proofs.TreesProg
import OpyVerif.Proofs.TreesCode
import OpyVerif.Proofs.GPRun
import OpyVerif.Proofs.GPRunCode
import OpyVerif.Proofs.NodeWalk
import OpyVerif.Proofs.WalkCode
import OpyVerif.Proofs.C05code
import OpyVerif.Proofs.SweepProg
import OpyVerif.Proofs.SweepCode
import OpyVerif.Proofs.Budget
import OpyVerif.Proofs.ClipProg
import OpyVerif.Proofs.ClipCode
import OpyVerif.Proofs.Formulas
import OpyVerif.Proofs.C13code
import OpyVerif.Proofs.C15code
import OpyVerif.Proofs.C16code
import OpyVerif.Proofs.C17code
import OpyVerif.Proofs.C18code
import OpyVerif.Proofs.OpTable
import OpyVerif.Proofs.Accept
import OpyVerif.Proofs.C02
import OpyVerif.Proofs.C03
import OpyVerif.Proofs.Lemmas.ListLemmas
import OpyVerif.Proofs.C04
import OpyVerif.Proofs.C06
import OpyVerif.Proofs.C08ops
import OpyVerif.Proofs.C08grow
import OpyVerif.Proofs.C09
import OpyVerif.Proofs.C09repro
import OpyVerif.Proofs.C11
import OpyVerif.Proofs.C13
import OpyVerif.Proofs.C14
import OpyVerif.Proofs.C15
import OpyVerif.Proofs.C16
import OpyVerif.Proofs.C18
import OpyVerif.Proofs.C18real
import OpyVerif.Proofs.C17
import OpyVerif.Proofs.C01
import OpyVerif.Proofs.C07
import OpyVerif.Proofs.C20
import OpyVerif.Proofs.C05
import OpyVerif.Proofs.C10
import OpyVerif.Proofs.C10real
import OpyVerif.Proofs.C12
import OpyVerif.Proofs.C19
import OpyVerif.Proofs.C03norm
import OpyVerif.Proofs.C03onlooker
import OpyVerif.Proofs.TaskRun
import OpyVerif.Proofs.TaskRunCode
import OpyVerif.Proofs.TaskTrial
import OpyVerif.Proofs.TaskTrialCode
import OpyVerif.Proofs.TaskSwarm
import OpyVerif.Proofs.TaskSwarmCode
import OpyVerif.Proofs.TaskAnyTrial
import OpyVerif.Proofs.TaskAnyTrialCode
import OpyVerif.Proofs.TaskHarmony
