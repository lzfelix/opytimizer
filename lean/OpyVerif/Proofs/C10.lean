import OpyVerif.Model.TreeOps
import OpyVerif.Proofs.Lemmas.EvalLemmas
/-!
C10 — a tree's position is the value of the expression it denotes.

`evalTree` is the transcription of `node._evaluate`.  Over any scalar type (`Elem α`: `Float`
for the executable twin, `ℝ` for the proofs):

* every well-aritied tree over the ten operators whose terminals hold arrays evaluates
  (`evalTree_total`), and the result has the declared shape (`evalTree_shape`);
* one unfolding lemma per operator fixes the operand order and the protections
  (`x / (y + eps)`, `sqrt (abs x)`, `log (abs x + eps)`);
* a deep copy (`PNode.shift`) has the same value (`evalTree_shift`): evaluation looks at labels
  and array identities only, never at node identities or stored links.

The protections' analytic content over `ℝ` is in `C10real.lean`.  Core Lean only.
-/
namespace Opy
open Elem

section
variable {α : Type} [Elem α]

/-- **totality**: a non-empty tree with the arity discipline of the ten operators, every
    terminal of which holds an array, evaluates -/
theorem evalTree_total (eps : α) (env : Nat → Option (List α)) (t : PNode)
    (ha : PNode.Arity ar10 t) (hne : t ≠ .nil)
    (hterm : ∀ lb, some lb ∈ t.pre.map PNode.lbl? → lb.isTerm = true → (env lb.arr).isSome = true) :
    ∃ r, evalTree eps env t = some r := by
  obtain ⟨r, hr, _⟩ := evalTree_pred eps env (fun _ => True) (fun _ _ _ _ _ => trivial)
    (fun _ _ _ => trivial) t ha hne (fun b hb hT => by
      obtain ⟨a, ha⟩ := Option.isSome_iff_exists.mp (hterm b hb hT)
      exact ⟨a, ha, trivial⟩)
  exact ⟨r, hr⟩

/-- **declared shape**: if moreover every terminal array has `n` entries, so has the result -/
theorem evalTree_shape (eps : α) (env : Nat → Option (List α)) (t : PNode) (n : Nat)
    (ha : PNode.Arity ar10 t) (hne : t ≠ .nil)
    (hterm : ∀ lb, some lb ∈ t.pre.map PNode.lbl? → lb.isTerm = true →
      ∃ a, env lb.arr = some a ∧ a.length = n) :
    ∃ r, evalTree eps env t = some r ∧ r.length = n :=
  evalTree_pred eps env (fun a => a.length = n)
    (fun f x y hx hy => by rw [zipW_eq_zipWith, List.length_zipWith, hx, hy, Nat.min_self])
    (fun g x hx => by simpa using hx) t ha hne hterm

/-! ### unfolding lemmas: one per operator, operand order explicit
(`x` = value of the left child, `y` = value of the right child) -/

theorem evalTree_nil (eps : α) (env : Nat → Option (List α)) : evalTree eps env .nil = none := rfl

/-- TERMINAL: the array the node holds (children are not looked at) -/
theorem evalTree_terminal (eps : α) (env : Nat → Option (List α)) (i nm a p f l r) :
    evalTree eps env (.mk i ⟨true, nm, a⟩ p f l r) = env a := by
  simp [evalTree]

/-- SUM: `x + y` -/
theorem evalTree_sum (eps : α) (env : Nat → Option (List α)) (i a p f l r) :
    evalTree eps env (.mk i ⟨false, 0, a⟩ p f l r) =
      match evalTree eps env l, evalTree eps env r with
      | some x, some y => some (zipW (fun x y => x + y) x y)
      | _, _ => none := evalTree_bin rfl ..

/-- SUB: `x - y` (left minus right) -/
theorem evalTree_sub (eps : α) (env : Nat → Option (List α)) (i a p f l r) :
    evalTree eps env (.mk i ⟨false, 1, a⟩ p f l r) =
      match evalTree eps env l, evalTree eps env r with
      | some x, some y => some (zipW (fun x y => x - y) x y)
      | _, _ => none := evalTree_bin rfl ..

/-- MUL: `x * y` -/
theorem evalTree_mul (eps : α) (env : Nat → Option (List α)) (i a p f l r) :
    evalTree eps env (.mk i ⟨false, 2, a⟩ p f l r) =
      match evalTree eps env l, evalTree eps env r with
      | some x, some y => some (zipW (fun x y => x * y) x y)
      | _, _ => none := evalTree_bin rfl ..

/-- DIV: protected, `x / (y + eps)` (left over right) -/
theorem evalTree_div (eps : α) (env : Nat → Option (List α)) (i a p f l r) :
    evalTree eps env (.mk i ⟨false, 3, a⟩ p f l r) =
      match evalTree eps env l, evalTree eps env r with
      | some x, some y => some (zipW (fun x y => x / (y + eps)) x y)
      | _, _ => none := evalTree_bin rfl ..

/-- EXP: `exp x` of the left value (the right child is not looked at) -/
theorem evalTree_exp (eps : α) (env : Nat → Option (List α)) (i a p f l r) :
    evalTree eps env (.mk i ⟨false, 4, a⟩ p f l r) = (evalTree eps env l).map (List.map fun x => exp x) := evalTree_un rfl rfl ..

/-- SQRT: protected, `sqrt (abs x)` -/
theorem evalTree_sqrt (eps : α) (env : Nat → Option (List α)) (i a p f l r) :
    evalTree eps env (.mk i ⟨false, 5, a⟩ p f l r) =
      (evalTree eps env l).map (List.map fun x => sqrt (abs x)) := evalTree_un rfl rfl ..

/-- LOG: protected, `log (abs x + eps)` -/
theorem evalTree_log (eps : α) (env : Nat → Option (List α)) (i a p f l r) :
    evalTree eps env (.mk i ⟨false, 6, a⟩ p f l r) =
      (evalTree eps env l).map (List.map fun x => log (abs x + eps)) := evalTree_un rfl rfl ..

/-- ABS: `abs x` -/
theorem evalTree_abs (eps : α) (env : Nat → Option (List α)) (i a p f l r) :
    evalTree eps env (.mk i ⟨false, 7, a⟩ p f l r) = (evalTree eps env l).map (List.map fun x => abs x) := evalTree_un rfl rfl ..

/-- SIN: `sin x` -/
theorem evalTree_sin (eps : α) (env : Nat → Option (List α)) (i a p f l r) :
    evalTree eps env (.mk i ⟨false, 8, a⟩ p f l r) = (evalTree eps env l).map (List.map fun x => sin x) := evalTree_un rfl rfl ..

/-- COS: `cos x` -/
theorem evalTree_cos (eps : α) (env : Nat → Option (List α)) (i a p f l r) :
    evalTree eps env (.mk i ⟨false, 9, a⟩ p f l r) = (evalTree eps env l).map (List.map fun x => cos x) := evalTree_un rfl rfl ..

/-- an operator code outside the table: the code falls through every `elif` and returns `None` -/
theorem evalTree_unknown (eps : α) (env : Nat → Option (List α)) (i c a p f l r) (h : 10 ≤ c) :
    evalTree eps env (.mk i ⟨false, c, a⟩ p f l r) = none := by
  obtain ⟨k, rfl⟩ := Nat.exists_eq_add_of_le' h
  exact evalTree_noop rfl rfl ..

/-- **a deep copy has the same value**: `shift` (the model of `copy.deepcopy`) renames node
    identities and stored links only; labels and array identities, which are all evaluation
    reads, are preserved.  (In a functional model "evaluation is a function of `(eps, env, t)`
    only" holds by construction; this is the non-vacuous counterpart.) -/
theorem evalTree_shift (eps : α) (env : Nat → Option (List α)) (k : Nat) (t : PNode) :
    evalTree eps env (PNode.shift k t) = evalTree eps env t := by
  induction t with
  | nil => rfl
  | mk i lb p f l r ihl ihr => simp only [PNode.shift, evalTree, ihl, ihr]

/-- evaluation ignores identities and stored links of the root as well -/
theorem evalTree_links_irrelevant (eps : α) (env : Nat → Option (List α)) (i i' lb p p' f f' l r) :
    evalTree eps env (.mk i lb p f l r) = evalTree eps env (.mk i' lb p' f' l r) := by
  simp only [evalTree]

end

/-! ### satisfiability / non-vacuity

The concrete tree `c10Tree = SUB(x0, ABS(x1))` (lemma file) is well-aritied, the terminal
hypothesis of `evalTree_total` / `evalTree_shape` holds for an environment defining arrays 1
and 2, and the value is `x - abs y` with the operands in that order. -/

example : PNode.arityB ar10 c10Tree = true := by decide +kernel
example : PNode.Arity ar10 c10Tree ∧ c10Tree ≠ .nil := by
  simp [c10Tree, PNode.Arity, ar10]
example {α : Type} [Elem α] (x y : α) :
    ∀ lb, some lb ∈ c10Tree.pre.map PNode.lbl? → lb.isTerm = true →
      ∃ a, c10Env x y lb.arr = some a ∧ a.length = 1 := by
  intro lb hlb hT
  simp only [c10Tree, PNode.pre, PNode.lbl?, List.map_cons, List.map_nil, List.cons_append,
    List.nil_append, List.mem_cons, Option.some.injEq, List.not_mem_nil, or_false] at hlb
  rcases hlb with rfl | rfl | rfl | rfl <;> simp_all [c10Env]
example {α : Type} [Elem α] (eps x y : α) :
    evalTree eps (c10Env x y) c10Tree = some [x - abs y] := rfl

#print axioms evalTree_total
#print axioms evalTree_shape
#print axioms evalTree_terminal
#print axioms evalTree_sum
#print axioms evalTree_sub
#print axioms evalTree_mul
#print axioms evalTree_div
#print axioms evalTree_exp
#print axioms evalTree_sqrt
#print axioms evalTree_log
#print axioms evalTree_abs
#print axioms evalTree_sin
#print axioms evalTree_cos
#print axioms evalTree_unknown
#print axioms evalTree_shift
#print axioms evalTree_links_irrelevant

end Opy
