import OpyVerif.Model.GrowProg
/-!
The expected `TreeSpace.grow` record (`Model/GrowProg.lean`) means the model `PNode.grow`, for every configuration, depth
budget, draw list and identity counter.
-/
namespace Opy
open PNode

/-- the expected reading of `TreeSpace.grow` is the model `grow` -/
theorem growProg_is_grow (cfg : GrowCfg) (k : Nat) (ds : List Nat) (nid : Nat) :
    Expected.growProg.run cfg k ds nid = grow cfg k ds nid := by
  -- the tests of the expected record, in the order the code makes them, select the same branch
  -- as the model's: a function below `F`, terminal `d - F` below `F + T`, nothing beyond
  have guards : ∀ (d F T : Nat) (a leaf : Option (PNode × List Nat × Nat)),
      (if 0 ≤ d ∧ d < F + T then
          if F ≤ d then (if d - F < T then leaf else none) else if d < F then a else none
        else none) =
      if d < F then a else if d < F + T then leaf else none := by
    intro d F T a leaf
    by_cases h1 : d < F
    · rw [if_pos ⟨Nat.zero_le _, Nat.lt_add_right T h1⟩, if_neg (Nat.not_le_of_lt h1), if_pos h1,
        if_pos h1]
    · by_cases h2 : d < F + T
      · rw [if_pos ⟨Nat.zero_le _, h2⟩, if_pos (Nat.le_of_not_lt h1),
          if_pos (Nat.sub_lt_left_of_lt_add (Nat.le_of_not_lt h1) h2), if_neg h1, if_pos h2]
      · rw [if_neg (fun h => h2 h.2), if_neg h1, if_neg h2]
  -- the expected record passes `ok`, so its `run` unfolds to `go`
  show Expected.growProg.go cfg k ds nid = grow cfg k ds nid
  induction k generalizing ds nid with
  | zero =>
    cases ds with
    | nil => rfl
    | cons d ds =>
      unfold GrowProg.go grow
      by_cases h : d < cfg.nTerminals
      · exact (if_pos ⟨Nat.zero_le _, h⟩).trans rfl
      · exact (if_neg (fun h' => h h'.2)).trans (if_neg h).symm
  | succ k ih =>
    cases ds with
    | nil => rfl
    | cons d ds =>
      unfold GrowProg.go grow
      simp only [ih]
      exact guards d _ _ _ _

end Opy
