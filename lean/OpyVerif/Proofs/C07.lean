import OpyVerif.Proofs.C02 -- of C02 itself only the demonstration history `demoCfg`, `demoPop`, `demoBest`, `demoEvs`; the rest is `MachineSpec`, `ListLemmas`
/-!
C07 — the population size never changes, and position storage is never shared.

`refsOf s` lists the storage identities of the agents (population order) followed by that of
the best agent; `RefsOk s` says they are pairwise distinct (no aliasing between agents, nor
between an agent and the best).  The sweep gives the best *fresh* storage (the deep copy) and
leaves every agent's storage alone; the black-hole swap exchanges two identities; clipping and
dumping touch none.  The best agent itself changes only in a sweep or a swap.
-/
namespace Opy

/-- storage identities of the agents (population order) followed by that of the best -/
def refsOf (s : St) : List Nat := s.pop.map (·.ref) ++ [s.best.ref]

/-- no two of the `n + 1` agents share their position storage -/
def RefsOk (s : St) : Prop := (refsOf s).Nodup

instance (s : St) : Decidable (RefsOk s) := by unfold RefsOk; exact inferInstance

/-- every accepted event preserves the population size -/
theorem apply_pop_length (cfg : Cfg) (s s' : St) (e : Ev) (h : apply cfg s e = some s') :
    s'.pop.length = s.pop.length := by
  cases e with
  | hook pop' => obtain ⟨rfl, _, h1, _⟩ := hook_spec h; exact h1
  | update pop' => obtain ⟨rfl, _, h1, _⟩ := update_spec h; exact h1
  | trial p v pop' => obtain ⟨rfl, _, _, _, _, _, h1, _⟩ := trial_spec h; exact h1
  | trialSwap p v i => obtain ⟨a, _, rfl, _⟩ := trialSwap_spec h; simp
  | sweep v tie r => obtain ⟨a, _, rfl, _⟩ := sweep_spec h; simp
  | clipAll => obtain ⟨rfl, _⟩ := clipAll_spec h; simp
  | dump => obtain ⟨rfl, _⟩ := dump_spec h; rfl

/-- **C07 (size).** The population size is the same after any accepted history. -/
theorem run_pop_length (cfg : Cfg) (evs : List Ev) : ∀ (s s' : St), run cfg s evs = some s' →
    s'.pop.length = s.pop.length :=
  fun s s' h => run_induction (fun t => t.pop.length = s.pop.length)
    (fun t t' e ht hl => (apply_pop_length cfg t t' e ht).trans hl) evs s s' h rfl

/-- a sweep never changes any agent's storage identity -/
theorem sweep_pop_refs (cfg : Cfg) (s s' : St) (v : Int) (tie : Bool) (r : Nat)
    (h : apply cfg s (.sweep v tie r) = some s') :
    s'.pop.map (·.ref) = s.pop.map (·.ref) := by
  obtain ⟨a, hai, rfl, _⟩ := sweep_spec h
  exact map_set_same _ s.pop s.cursor _ a hai (sweepAgent_ref cfg a v)

theorem sweep_best_ref (cfg : Cfg) (s s' : St) (v : Int) (tie : Bool) (r : Nat)
    (h : apply cfg s (.sweep v tie r) = some s') :
    s'.best.ref = s.best.ref ∨ s'.best.ref = r := by
  obtain ⟨a, _, rfl, _⟩ := sweep_spec h
  dsimp only
  split
  · right; rfl
  · left; rfl

/-- **C07 (sweep).** The best's new storage is fresh and the agents keep theirs: no aliasing
    is introduced by the sweep. -/
theorem sweep_refs (cfg : Cfg) (s s' : St) (v : Int) (tie : Bool) (r : Nat)
    (h : apply cfg s (.sweep v tie r) = some s') (hok : RefsOk s) (hr : r ∉ refsOf s) :
    RefsOk s' := by
  have hp := sweep_pop_refs cfg s s' v tie r h
  unfold RefsOk refsOf at *
  rw [hp]
  rcases sweep_best_ref cfg s s' v tie r h with hb | hb
  · rw [hb]; exact hok
  · rw [hb, nodup_concat]
    exact ⟨((nodup_concat ..).1 hok).1, fun hmem => hr (List.mem_append_left _ hmem)⟩

/-- **C07 (black-hole swap).** The swap exchanges two storage identities: the multiset of
    identities is unchanged, hence still duplicate-free. -/
theorem trialSwap_refs (cfg : Cfg) (s s' : St) (p : Pos) (v : Int) (i : Nat)
    (h : apply cfg s (.trialSwap p v i) = some s') :
    List.Perm (refsOf s') (refsOf s) ∧ (RefsOk s → RefsOk s') := by
  obtain ⟨a, hai, rfl, _⟩ := trialSwap_spec h
  obtain ⟨hil, rfl⟩ := List.getElem?_eq_some_iff.1 hai
  suffices hperm : List.Perm (refsOf _) (refsOf s) from ⟨hperm, hperm.nodup_iff.2⟩
  -- on the identities the event exchanges entry `i` with the best's
  have := perm_set_swap (s.pop.map (·.ref)) s.best.ref i (by simpa using hil)
  rwa [← List.map_set, List.getElem_map] at this

/-- the agent at index `i` takes over the best's storage and vice versa -/
theorem trialSwap_exchange (cfg : Cfg) (s s' : St) (p : Pos) (v : Int) (i : Nat)
    (h : apply cfg s (.trialSwap p v i) = some s') :
    ∃ a, s.pop[i]? = some a ∧ s'.best.ref = a.ref ∧
      (s'.pop[i]?).map Ag.ref = some s.best.ref := by
  obtain ⟨a, hai, rfl, _⟩ := trialSwap_spec h
  obtain ⟨hil, hia⟩ := List.getElem?_eq_some_iff.1 hai
  refine ⟨a, hai, rfl, ?_⟩
  dsimp only
  simp [hil]

theorem dump_refs (cfg : Cfg) (s s' : St) (h : apply cfg s .dump = some s') :
    refsOf s' = refsOf s := by
  obtain ⟨rfl, _⟩ := dump_spec h; rfl

/-- limit enforcement writes into the existing storage: `clipAg` keeps `ref` -/
theorem clipAll_refs (cfg : Cfg) (s s' : St) (h : apply cfg s .clipAll = some s') :
    refsOf s' = refsOf s := by
  obtain ⟨rfl, _⟩ := clipAll_spec h
  unfold refsOf
  dsimp only
  rw [List.map_map]
  rfl

/-- **C07 (best).** The best agent changes only in a sweep step or a black-hole swap. -/
theorem best_changes_only_in_sweep_or_swap (cfg : Cfg) (s s' : St) (e : Ev)
    (hsw : e.isSweep = false) (hsp : e.isSwap = false) (h : apply cfg s e = some s') :
    s'.best = s.best := by
  cases e with
  | hook pop' => obtain ⟨rfl, _⟩ := hook_spec h; rfl
  | update pop' => obtain ⟨rfl, _⟩ := update_spec h; rfl
  | trial p v pop' => obtain ⟨rfl, _⟩ := trial_spec h; rfl
  | trialSwap p v i => cases hsp
  | sweep v tie r => cases hsw
  | clipAll => obtain ⟨rfl, _⟩ := clipAll_spec h; rfl
  | dump => obtain ⟨rfl, _⟩ := dump_spec h; rfl

/-- distinct identities at the start, fresh identities 3 and 4 in the two sweep steps -/
example : RefsOk (initSt demoPop demoBest) := by decide +kernel
example : ((run demoCfg (initSt demoPop demoBest) [.hook demoPop, .sweep 10 false 3, .sweep 4 false 4]).map
    (fun s => (refsOf s, s.pop.length))) = some ([1, 2, 4], 2) := by decide +kernel
/-- a black-hole swap after the sweep (agent 0 moved to `[[3]]` first): agent 0 and the best
    exchange identities -/
example : ((run demoCfg (initSt demoPop demoBest)
    [.hook demoPop, .sweep 10 false 3, .sweep 4 false 4,
     .update [{ pos := [[3]], tpos := [[3]], fit := 10, ref := 1 }, { pos := [[5]], tpos := [[5]], fit := 4, ref := 2 }],
     .trialSwap [[3]] 2 0]).map
    (fun s => (refsOf s, s.best.fit, s.pop.length))) = some ([4, 2, 1], 2, 2) := by decide +kernel
/-- freshness is needed: re-using an agent's identity for the best aliases the two -/
example : ((run demoCfg (initSt demoPop demoBest) [.hook demoPop, .sweep 10 false 2]).map
    (fun s => decide (RefsOk s))) = some false := by decide +kernel

#print axioms apply_pop_length
#print axioms run_pop_length
#print axioms sweep_pop_refs
#print axioms sweep_best_ref
#print axioms sweep_refs
#print axioms trialSwap_refs
#print axioms trialSwap_exchange
#print axioms dump_refs
#print axioms clipAll_refs
#print axioms best_changes_only_in_sweep_or_swap

end Opy
