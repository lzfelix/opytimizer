import OpyVerif.Proofs.Lemmas.RealLemmas
/-!
C15 — self-adapting hyperparameter schedules stay in their declared ranges over `ℝ`:
AIWPSO inertia weight, IHS `PAR`/`bw`, SA temperature, FA `alpha`, WCA `d_max`.
The formulas are the ones of `Model/Num.lean`, instantiated at `ℝ`; `successCount` and `successLoop` are defined in
`Lemmas/RealLemmas.lean`.
-/
namespace Opy

theorem natCast_ne_zero {N : ℕ} (hN : 0 < N) : (N : ℝ) ≠ 0 := Nat.cast_ne_zero.mpr hN.ne'

/-- AIWPSO: more successes never give a smaller inertia weight -/
theorem aiwpsoW_monotone (wmin wmax : ℝ) (p p' n : ℕ) (hw : wmin ≤ wmax) (hpp : p ≤ p') :
    aiwpsoW wmin wmax p n ≤ aiwpsoW wmin wmax p' n := by
  rw [aiwpsoW_real, aiwpsoW_real]
  exact lerp_mono _ _ hw (div_le_div_of_nonneg_right (Nat.cast_le.mpr hpp) (Nat.cast_nonneg n))

/-- AIWPSO: no success gives `w_min`, all successes give `w_max` -/
theorem aiwpsoW_ends (wmin wmax : ℝ) (n : ℕ) (hn : 0 < n) :
    aiwpsoW wmin wmax 0 n = wmin ∧ aiwpsoW wmin wmax n n = wmax := by
  rw [aiwpsoW_real, aiwpsoW_real, Nat.cast_zero, zero_div, div_self (natCast_ne_zero hn)]
  exact ⟨lerp_zero _ _, lerp_one _ _⟩

/-- AIWPSO: the inertia weight stays in `[w_min, w_max]` whenever the success count is at most `n` -/
theorem aiwpsoW_mem (wmin wmax : ℝ) (p n : ℕ) (hn : 0 < n) (hp : p ≤ n) (hw : wmin ≤ wmax) :
    wmin ≤ aiwpsoW wmin wmax p n ∧ aiwpsoW wmin wmax p n ≤ wmax := by
  have a := aiwpsoW_monotone wmin wmax 0 p n hw p.zero_le
  have b := aiwpsoW_monotone wmin wmax p n n hw hp
  rw [(aiwpsoW_ends wmin wmax n hn).1] at a
  rw [(aiwpsoW_ends wmin wmax n hn).2] at b
  exact ⟨a, b⟩

/-- the counting loop `p = #{i | new_i < old_i}` never exceeds the number of agents -/
theorem success_count_le (new old : List ℝ) (n : ℕ) (h1 : new.length = n) (h2 : old.length = n) :
    successCount new old ≤ n := by
  have := successCount_le_length new old
  rwa [h1, h2, min_self] at this

theorem success_loop_le (new old : List ℝ) (n : ℕ) (h1 : new.length = n) (h2 : old.length = n) :
    successLoop new old ≤ n := by
  rw [successLoop_eq_count]; exact success_count_le new old n h1 h2

/-- AIWPSO end to end: with `p` the success count over `n ≥ 1` agents the weight is in range -/
theorem aiwpsoW_mem_of_count (wmin wmax : ℝ) (new old : List ℝ) (n : ℕ) (hn : 0 < n)
    (h1 : new.length = n) (h2 : old.length = n) (hw : wmin ≤ wmax) :
    wmin ≤ aiwpsoW wmin wmax (successLoop new old) n ∧
      aiwpsoW wmin wmax (successLoop new old) n ≤ wmax :=
  aiwpsoW_mem wmin wmax _ n hn (success_loop_le new old n h1 h2) hw

/-- over `ℝ`, IHS's `PAR` schedule is AIWPSO's weight formula with iteration `t` of `N` in the place of `p` successes of `n` -/
theorem ihsPAR_eq_aiwpsoW (pmin pmax : ℝ) (N t : ℕ) : ihsPAR pmin pmax N t = aiwpsoW pmin pmax t N := by
  rw [ihsPAR_real, aiwpsoW_real]

/-- IHS: `PAR` starts at `PAR_min` -/
theorem ihsPAR_zero (pmin pmax : ℝ) (N : ℕ) : ihsPAR pmin pmax N 0 = pmin := by
  rw [ihsPAR_real, Nat.cast_zero, zero_div, lerp_zero]

/-- IHS: `PAR` would reach `PAR_max` at `t = N` (the run stops at `N - 1`) -/
theorem ihsPAR_last (pmin pmax : ℝ) (N : ℕ) (hN : 0 < N) : ihsPAR pmin pmax N N = pmax := by
  rw [ihsPAR_eq_aiwpsoW]; exact (aiwpsoW_ends pmin pmax N hN).2

/-- IHS: `PAR` never decreases from one iteration to a later one -/
theorem ihsPAR_monotone (pmin pmax : ℝ) (N t t' : ℕ) (hp : pmin ≤ pmax) (htt : t ≤ t') :
    ihsPAR pmin pmax N t ≤ ihsPAR pmin pmax N t' := by
  rw [ihsPAR_eq_aiwpsoW, ihsPAR_eq_aiwpsoW]; exact aiwpsoW_monotone pmin pmax t t' N hp htt

/-- IHS: `PAR` stays in `[PAR_min, PAR_max]` for every iteration `t < N` -/
theorem ihsPAR_mem (pmin pmax : ℝ) (N t : ℕ) (hN : 0 < N) (ht : t < N) (hp : pmin ≤ pmax) :
    pmin ≤ ihsPAR pmin pmax N t ∧ ihsPAR pmin pmax N t ≤ pmax := by
  rw [ihsPAR_eq_aiwpsoW]; exact aiwpsoW_mem pmin pmax t N hN ht.le hp

/-- IHS: `bw` starts at `bw_max` -/
theorem ihsBw_zero (bmin bmax : ℝ) (N : ℕ) : ihsBw bmin bmax N 0 = bmax := by
  rw [ihsBw_real, Nat.cast_zero, mul_zero, Real.exp_zero, mul_one]

/-- IHS: `bw` would reach `bw_min` at `t = N` -/
theorem ihsBw_last (bmin bmax : ℝ) (N : ℕ) (hN : 0 < N) (h0 : 0 < bmin) (hb : bmin ≤ bmax) :
    ihsBw bmin bmax N N = bmin := by
  have hmax : 0 < bmax := lt_of_lt_of_le h0 hb
  rw [ihsBw_real, div_mul_cancel₀ _ (natCast_ne_zero hN), Real.exp_log (div_pos h0 hmax),
    mul_div_cancel₀ _ hmax.ne']

/-- IHS: `bw` never increases from one iteration to a later one -/
theorem ihsBw_antitone (bmin bmax : ℝ) (N t t' : ℕ) (h0 : 0 < bmin) (hb : bmin ≤ bmax) (htt : t ≤ t') :
    ihsBw bmin bmax N t' ≤ ihsBw bmin bmax N t := by
  rw [ihsBw_real, ihsBw_real]
  have hmax : 0 < bmax := lt_of_lt_of_le h0 hb
  have hlog : Real.log (bmin / bmax) / (N : ℝ) ≤ 0 :=
    div_nonpos_of_nonpos_of_nonneg
      (Real.log_nonpos (div_pos h0 hmax).le ((div_le_one hmax).mpr hb)) (Nat.cast_nonneg N)
  exact mul_le_mul_of_nonneg_left
    (Real.exp_le_exp.mpr (mul_le_mul_of_nonpos_left (Nat.cast_le.mpr htt) hlog)) hmax.le

/-- IHS: `bw` stays in `[bw_min, bw_max]` for every iteration `t < N` -/
theorem ihsBw_mem (bmin bmax : ℝ) (N t : ℕ) (hN : 0 < N) (ht : t < N) (h0 : 0 < bmin)
    (hb : bmin ≤ bmax) : bmin ≤ ihsBw bmin bmax N t ∧ ihsBw bmin bmax N t ≤ bmax := by
  have a := ihsBw_antitone bmin bmax N t N h0 hb ht.le
  have b := ihsBw_antitone bmin bmax N 0 t h0 hb t.zero_le
  rw [ihsBw_last bmin bmax N hN h0 hb] at a
  rw [ihsBw_zero] at b
  exact ⟨a, b⟩

/-- SA: one cooling step with `beta ∈ [0,1]` keeps the temperature in `[0, T]` -/
theorem saT_antitone_nonneg (T beta : ℝ) (hT : 0 ≤ T) (hb0 : 0 ≤ beta) (hb1 : beta ≤ 1) :
    0 ≤ saT T beta ∧ saT T beta ≤ T := by
  rw [saT_real]; exact decay_step hb0 hb1 hT

/-- SA: after any number `k` of cooling steps the temperature is in `[0, T0]`, and step `k+1` does
    not exceed step `k` -/
theorem saT_iter (T0 beta : ℝ) (hT : 0 ≤ T0) (hb0 : 0 ≤ beta) (hb1 : beta ≤ 1) (k : ℕ) :
    0 ≤ (fun T => saT T beta)^[k] T0 ∧ (fun T => saT T beta)^[k] T0 ≤ T0 ∧
      (fun T => saT T beta)^[k + 1] T0 ≤ (fun T => saT T beta)^[k] T0 :=
  iterate_shrink _ (fun x hx => saT_antitone_nonneg x beta hx hb0 hb1) T0 hT k

/-- SA: the temperature sequence is antitone in the iteration count -/
theorem saT_iter_antitone (T0 beta : ℝ) (hT : 0 ≤ T0) (hb0 : 0 ≤ beta) (hb1 : beta ≤ 1) :
    Antitone fun k => (fun T => saT T beta)^[k] T0 :=
  iterate_shrink_antitone _ (fun x hx => saT_antitone_nonneg x beta hx hb0 hb1) T0 hT

/-- SA: after `k` cooling steps `T = T0 · beta ^ k` -/
theorem saT_closed_form (T0 beta : ℝ) (k : ℕ) : (fun T => saT T beta)^[k] T0 = T0 * beta ^ k :=
  decay_iterate _ beta (fun T => saT_real T beta) T0 k

/-- FA: `delta ∈ (0,1)` for every positive iteration budget -/
theorem faDelta_mem (N : ℕ) (hN : 0 < N) : 0 < (faDelta N : ℝ) ∧ (faDelta N : ℝ) < 1 := by
  obtain ⟨h0, h1⟩ := faFactor_mem N hN
  rw [faDelta_real]
  exact ⟨sub_pos.mpr h1, sub_lt_self _ h0⟩

/-- FA: one update keeps `alpha` in `[0, alpha]` -/
theorem faAlpha_antitone_nonneg (alpha : ℝ) (N : ℕ) (hN : 0 < N) (ha : 0 ≤ alpha) :
    0 ≤ faAlpha alpha N ∧ faAlpha alpha N ≤ alpha := by
  obtain ⟨h0, h1⟩ := faFactor_mem N hN
  rw [faAlpha_real]; exact decay_step h0.le h1.le ha

theorem faAlpha_iter (alpha0 : ℝ) (N : ℕ) (hN : 0 < N) (ha : 0 ≤ alpha0) (k : ℕ) :
    0 ≤ (fun a => faAlpha a N)^[k] alpha0 ∧ (fun a => faAlpha a N)^[k] alpha0 ≤ alpha0 ∧
      (fun a => faAlpha a N)^[k + 1] alpha0 ≤ (fun a => faAlpha a N)^[k] alpha0 :=
  iterate_shrink _ (fun x hx => faAlpha_antitone_nonneg x N hN hx) alpha0 ha k

theorem faAlpha_iter_antitone (alpha0 : ℝ) (N : ℕ) (hN : 0 < N) (ha : 0 ≤ alpha0) :
    Antitone fun k => (fun a => faAlpha a N)^[k] alpha0 :=
  iterate_shrink_antitone _ (fun x hx => faAlpha_antitone_nonneg x N hN hx) alpha0 ha

/-- FA: after `k` updates `alpha = alpha0 · ((1/900) ^ (1/N)) ^ k` -/
theorem faAlpha_closed_form (alpha0 : ℝ) (N k : ℕ) :
    (fun a => faAlpha a N)^[k] alpha0 = alpha0 * (((1 : ℝ) / 900) ^ ((1 : ℝ) / (N : ℝ))) ^ k :=
  decay_iterate _ _ (fun a => faAlpha_real a N) alpha0 k

/-- FA: a whole task of `N` iterations divides `alpha` by exactly 900 (over `ℝ`) -/
theorem faAlpha_whole_task (alpha0 : ℝ) (N : ℕ) (hN : 0 < N) :
    (fun a => faAlpha a N)^[N] alpha0 = alpha0 / 900 := by
  rw [faAlpha_closed_form, ← Real.rpow_natCast, ← Real.rpow_mul (by norm_num),
    one_div_mul_cancel (natCast_ne_zero hN), Real.rpow_one, mul_one_div]

/-- WCA: one update keeps `d_max` in `[0, d_max]` -/
theorem wcaDmax_antitone_nonneg (d : ℝ) (N : ℕ) (hN : 1 ≤ N) (hd : 0 ≤ d) :
    0 ≤ wcaDmax d N ∧ wcaDmax d N ≤ d := by
  obtain ⟨h0, h1⟩ := wcaFactor_mem N hN
  rw [wcaDmax_real]; exact decay_step h0 h1 hd

theorem wcaDmax_iter (d0 : ℝ) (N : ℕ) (hN : 1 ≤ N) (hd : 0 ≤ d0) (k : ℕ) :
    0 ≤ (fun d => wcaDmax d N)^[k] d0 ∧ (fun d => wcaDmax d N)^[k] d0 ≤ d0 ∧
      (fun d => wcaDmax d N)^[k + 1] d0 ≤ (fun d => wcaDmax d N)^[k] d0 :=
  iterate_shrink _ (fun x hx => wcaDmax_antitone_nonneg x N hN hx) d0 hd k

theorem wcaDmax_iter_antitone (d0 : ℝ) (N : ℕ) (hN : 1 ≤ N) (hd : 0 ≤ d0) :
    Antitone fun k => (fun d => wcaDmax d N)^[k] d0 :=
  iterate_shrink_antitone _ (fun x hx => wcaDmax_antitone_nonneg x N hN hx) d0 hd

/-- WCA: after `k` updates `d_max = d0 · (1 - 1/N) ^ k`; in particular it is `0` from the first update on when `N = 1` -/
theorem wcaDmax_closed_form (d0 : ℝ) (N k : ℕ) :
    (fun d => wcaDmax d N)^[k] d0 = d0 * (1 - 1 / (N : ℝ)) ^ k :=
  decay_iterate _ _ (fun d => wcaDmax_real d N) d0 k

/-- WCA with a one-iteration budget: `d_max` is exactly `0` after the first update -/
theorem wcaDmax_one_iteration (d0 : ℝ) : wcaDmax d0 1 = 0 := by
  rw [wcaDmax_real]; simp

/-! satisfiability of the hypotheses, on concrete numbers -/

example : (0 : ℕ) < 20 ∧ (7 : ℕ) ≤ 20 ∧ (0.4 : ℝ) ≤ 0.9 := by norm_num
example : (0 : ℕ) < 1000 ∧ (999 : ℕ) < 1000 ∧ (0 : ℝ) ≤ 1 := by norm_num
example : (0 : ℕ) < 1000 ∧ (999 : ℕ) < 1000 ∧ (0 : ℝ) < 1 ∧ (1 : ℝ) ≤ 10 := by norm_num
example : (0 : ℝ) ≤ 100 ∧ (0 : ℝ) ≤ 0.999 ∧ (0.999 : ℝ) ≤ 1 := by norm_num
example : (1 : ℕ) ≤ 1000 ∧ (0 : ℝ) ≤ 0.1 := by norm_num
example : (0.01 : ℝ) ≤ 0.99 ∧ (3 : ℕ) ≤ 7 ∧ (0 : ℝ) < 0.0001 ∧ (0.0001 : ℝ) ≤ 1 := by norm_num
example : successCount [(1 : ℕ), 5, 2] [3, 4, 9] = 2 := by decide
example : successLoop [(1 : ℕ), 5, 2] [3, 4, 9] = 2 := by decide

#print axioms aiwpsoW_mem
#print axioms success_count_le
#print axioms success_loop_le
#print axioms aiwpsoW_mem_of_count
#print axioms ihsPAR_mem
#print axioms ihsBw_mem
#print axioms saT_antitone_nonneg
#print axioms saT_iter
#print axioms saT_iter_antitone
#print axioms faDelta_mem
#print axioms faAlpha_antitone_nonneg
#print axioms faAlpha_iter
#print axioms faAlpha_iter_antitone
#print axioms wcaDmax_antitone_nonneg
#print axioms wcaDmax_iter
#print axioms wcaDmax_iter_antitone
#print axioms ihsPAR_zero
#print axioms ihsPAR_last
#print axioms ihsPAR_monotone
#print axioms ihsBw_zero
#print axioms ihsBw_last
#print axioms ihsBw_antitone
#print axioms aiwpsoW_monotone
#print axioms aiwpsoW_ends
#print axioms saT_closed_form
#print axioms wcaDmax_closed_form
#print axioms wcaDmax_one_iteration
#print axioms faAlpha_closed_form
#print axioms faAlpha_whole_task

end Opy
