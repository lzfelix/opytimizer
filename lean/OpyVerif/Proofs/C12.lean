import OpyVerif.Model.GPSweep
import OpyVerif.Proofs.C06
/-!
C12 — after `GP._evaluate`, agents, fitnesses and the incumbent agree with the trees.

`gpSweep lbs ubs f tvs best` (Model/GPSweep.lean) is the loop of `GP._evaluate` over the tree
values `tvs` (individual `i`'s tree evaluates to `tvs[i]`), starting from the incumbent
`best = (best_agent.fit, best_agent.position, index best_tree was copied from)`.
`gpFit lbs ubs f tv = f (clipPos lbs ubs tv)` is the fitness the loop computes for a tree value.

* `gpSweep_agents*`  : agent `i` holds the clipped value of tree `i` and `f` of it;
* `gpSweep_best`     : the incumbent is unchanged, or it is the *first* individual attaining the
                       sweep's minimum fitness, which is strictly below the previous best;
* `gpSweep_best_le`  : the incumbent is at least as good as every agent and as before;
* `gpSweep_inBox`    : all resulting positions are feasible.

Core Lean only.
-/
namespace Opy

variable (lbs ubs : List Int) (f : Pos → Int)

/-- the fitness the sweep computes for a tree value: `f` of the clipped copy -/
def gpFit (tv : Pos) : Int := f (clipPos lbs ubs tv)

theorem gpStep_eq (k : Nat) (ags : List (Pos × Int)) (best : GPBest) (tv : Pos) :
    gpStep lbs ubs f (k, ags, best) tv =
      (k + 1, ags ++ [(clipPos lbs ubs tv, gpFit lbs ubs f tv)],
        if gpFit lbs ubs f tv < best.1 then (gpFit lbs ubs f tv, clipPos lbs ubs tv, some k) else best) := rfl

theorem gpFold_agents : ∀ (tvs : List Pos) (k : Nat) (ags : List (Pos × Int)) (best : GPBest),
    (tvs.foldl (gpStep lbs ubs f) (k, ags, best)).2.1 =
      ags ++ tvs.map (fun tv => (clipPos lbs ubs tv, gpFit lbs ubs f tv)) := by
  intro tvs
  induction tvs with
  | nil => simp
  | cons tv rest ih =>
    intro k ags best
    rw [List.foldl_cons, gpStep_eq, ih]
    simp

/-- invariant of the fold: `r` is above neither the old incumbent nor anyone; it is the old one or
    the first individual attaining the minimum, which is then strictly below the old one -/
theorem gpFold_best : ∀ (tvs : List Pos) (k : Nat) (ags : List (Pos × Int)) (best r : GPBest),
    (tvs.foldl (gpStep lbs ubs f) (k, ags, best)).2.2 = r →
    r.1 ≤ best.1 ∧ (∀ tv ∈ tvs, r.1 ≤ gpFit lbs ubs f tv) ∧
    (r = best ∨ ∃ j, ∃ h : j < tvs.length,
      r = (gpFit lbs ubs f tvs[j], clipPos lbs ubs tvs[j], some (k + j)) ∧ gpFit lbs ubs f tvs[j] < best.1 ∧
      ∀ m (hm : m < j), gpFit lbs ubs f tvs[j] < gpFit lbs ubs f (tvs[m]'(Nat.lt_trans hm h))) := by
  intro tvs
  induction tvs with
  | nil => exact fun k ags best r hr => ⟨hr ▸ Int.le_refl _, fun _ h => absurd h List.not_mem_nil, Or.inl hr.symm⟩
  | cons tv rest ih =>
    intro k ags best r hr
    rw [List.foldl_cons, gpStep_eq] at hr
    -- `b'` is the incumbent after `tv`: above neither `tv` nor the old one, and it is one of the two
    generalize hb : (if gpFit lbs ubs f tv < best.1 then
      (gpFit lbs ubs f tv, clipPos lbs ubs tv, some k) else best) = b' at hr
    have h1 : b'.1 ≤ gpFit lbs ubs f tv ∧ b'.1 ≤ best.1 ∧
        (b' = best ∨ b' = (gpFit lbs ubs f tv, clipPos lbs ubs tv, some k) ∧ gpFit lbs ubs f tv < best.1) := by
      subst hb
      by_cases hlt : gpFit lbs ubs f tv < best.1
      · rw [if_pos hlt]; exact ⟨Int.le_refl _, Int.le_of_lt hlt, Or.inr ⟨rfl, hlt⟩⟩
      · rw [if_neg hlt]; exact ⟨Int.not_lt.mp hlt, Int.le_refl _, Or.inl rfl⟩
    obtain ⟨hle, hall, hres⟩ := ih (k + 1) _ b' r hr
    refine ⟨Int.le_trans hle h1.2.1, fun tv' h' => ?_, ?_⟩
    · rcases List.mem_cons.mp h' with rfl | h'
      · exact Int.le_trans hle h1.1
      · exact hall tv' h'
    · rcases hres with hres | ⟨j, hj, hres, hlt', hfirst⟩
      · rcases h1.2.2 with e | ⟨e, hlt⟩
        · exact Or.inl (hres.trans e)
        · exact Or.inr ⟨0, Nat.succ_pos _, hres.trans e, hlt, fun m hm => absurd hm (Nat.not_lt_zero m)⟩
      · exact Or.inr ⟨j + 1, Nat.succ_lt_succ hj, by rw [hres, Nat.add_assoc, Nat.add_comm 1 j]; rfl,
          Int.lt_of_lt_of_le hlt' h1.2.1,
          fun m hm => match m, hm with
            | 0, _ => Int.lt_of_lt_of_le hlt' h1.1
            | m + 1, hm => hfirst m (Nat.lt_of_succ_lt_succ hm)⟩

theorem gpSweep_agents_eq (tvs : List Pos) (best : GPBest) :
    (gpSweep lbs ubs f tvs best).1 =
      tvs.map (fun tv => (clipPos lbs ubs tv, f (clipPos lbs ubs tv))) := by
  simp only [gpSweep]
  rw [gpFold_agents]; simp [gpFit]

/-- **agents agree with trees**: as many agents as trees; agent `i`'s position is the clipped
    value of tree `i`, and its fitness is `f` of that very position -/
theorem gpSweep_agents (tvs : List Pos) (best : GPBest) :
    (gpSweep lbs ubs f tvs best).1.length = tvs.length ∧
    ∀ i (h : i < tvs.length),
      (gpSweep lbs ubs f tvs best).1[i]? = some (clipPos lbs ubs tvs[i], f (clipPos lbs ubs tvs[i])) := by
  rw [gpSweep_agents_eq]
  refine ⟨by simp, ?_⟩
  intro i h
  simp [h]

/-- fitness and position of every agent are consistent with each other -/
theorem gpSweep_agents_fit (tvs : List Pos) (best : GPBest) :
    ∀ a ∈ (gpSweep lbs ubs f tvs best).1, a.2 = f a.1 := by
  rw [gpSweep_agents_eq]
  exact List.forall_mem_map.2 fun _ _ => rfl

/-- **the incumbent**: either no individual is strictly better than the previous best and all
    three components are unchanged; or `bestIdx = some j` where `j` is the first index
    attaining the minimum fitness of the sweep, that minimum is strictly below the previous
    best, `bestPos` is the clipped value of tree `j` and `bestFit = f bestPos` -/
theorem gpSweep_best (tvs : List Pos) (best : GPBest) :
    ((∀ tv ∈ tvs, best.1 ≤ gpFit lbs ubs f tv) ∧ (gpSweep lbs ubs f tvs best).2 = best) ∨
    (∃ j, ∃ h : j < tvs.length,
        (gpSweep lbs ubs f tvs best).2.2.2 = some j ∧
        (gpSweep lbs ubs f tvs best).2.2.1 = clipPos lbs ubs tvs[j] ∧
        (gpSweep lbs ubs f tvs best).2.1 = f (gpSweep lbs ubs f tvs best).2.2.1 ∧
        gpFit lbs ubs f tvs[j] < best.1 ∧
        (∀ m (hm : m < tvs.length), gpFit lbs ubs f tvs[j] ≤ gpFit lbs ubs f tvs[m]) ∧
        (∀ m (hm : m < j), gpFit lbs ubs f tvs[j] < gpFit lbs ubs f (tvs[m]'(by omega)))) := by
  obtain ⟨_, hall, h | ⟨j, hj, hres, h1, h3⟩⟩ := gpFold_best lbs ubs f tvs 0 [] best (gpSweep lbs ubs f tvs best).2 rfl
  · exact Or.inl ⟨fun tv htv => h ▸ hall tv htv, h⟩
  · refine Or.inr ⟨j, hj, by rw [hres, Nat.zero_add], by rw [hres], by rw [hres]; rfl, h1, fun m hm => ?_, h3⟩
    have := hall tvs[m] (List.getElem_mem hm)
    rwa [hres] at this

/-- the two cases of `gpSweep_best` are told apart by the data: the incumbent changes iff some
    individual is strictly better than the previous best -/
theorem gpSweep_best_changed_iff (tvs : List Pos) (best : GPBest) :
    (gpSweep lbs ubs f tvs best).2 = best ↔ ∀ tv ∈ tvs, best.1 ≤ gpFit lbs ubs f tv := by
  obtain ⟨_, hall, hres⟩ := gpFold_best lbs ubs f tvs 0 [] best (gpSweep lbs ubs f tvs best).2 rfl
  refine ⟨fun heq tv htv => heq ▸ hall tv htv, fun h => hres.resolve_right ?_⟩
  rintro ⟨j, hj, _, hlt, _⟩
  exact Int.lt_irrefl _ (Int.lt_of_lt_of_le hlt (h tvs[j] (List.getElem_mem hj)))

/-- **the incumbent is a minimum**: afterwards `bestFit ≤` every agent's fitness, and
    `bestFit ≤` the previous best fitness -/
theorem gpSweep_best_le (tvs : List Pos) (best : GPBest) :
    (∀ a ∈ (gpSweep lbs ubs f tvs best).1, (gpSweep lbs ubs f tvs best).2.1 ≤ f a.1) ∧
    (gpSweep lbs ubs f tvs best).2.1 ≤ best.1 := by
  obtain ⟨hle, hall, _⟩ := gpFold_best lbs ubs f tvs 0 [] best (gpSweep lbs ubs f tvs best).2 rfl
  rw [gpSweep_agents_eq]
  exact ⟨List.forall_mem_map.2 hall, hle⟩

/-- **feasibility**: with point-wise ordered bounds and every tree value having one row per
    bound pair, every agent position is in the box, and so is the best position whenever it
    was replaced (otherwise it is the previous one, bit for bit) -/
theorem gpSweep_inBox (tvs : List Pos) (best : GPBest) (hb : BoundsOk lbs ubs)
    (hrows : ∀ tv ∈ tvs, tv.length = lbs.length) :
    (∀ a ∈ (gpSweep lbs ubs f tvs best).1, InBox lbs ubs a.1) ∧
    ((gpSweep lbs ubs f tvs best).2 = best ∨ InBox lbs ubs (gpSweep lbs ubs f tvs best).2.2.1) := by
  constructor
  · rw [gpSweep_agents_eq]
    exact List.forall_mem_map.2 fun tv htv => clipPos_inBox lbs ubs tv hb (hrows tv htv).symm
  · rcases gpSweep_best lbs ubs f tvs best with ⟨_, h2⟩ | ⟨j, hj, _, hp, _⟩
    · exact Or.inl h2
    · right
      rw [hp]
      exact clipPos_inBox lbs ubs _ hb (hrows _ (List.getElem_mem _)).symm

/-- if the previous best position was feasible, the best position is feasible afterwards -/
theorem gpSweep_best_inBox (tvs : List Pos) (best : GPBest) (hb : BoundsOk lbs ubs)
    (hrows : ∀ tv ∈ tvs, tv.length = lbs.length) (h0 : InBox lbs ubs best.2.1) :
    InBox lbs ubs (gpSweep lbs ubs f tvs best).2.2.1 := by
  rcases (gpSweep_inBox lbs ubs f tvs best hb hrows).2 with h | h
  · rw [h]; exact h0
  · exact h

/-! ### satisfiability / non-vacuity

three individuals, fitness = first entry; the second and third tie at the minimum after
clipping: the *first* of them (index 1) becomes the incumbent -/
example :
    gpSweep [0] [5] (fun p => (p.headD []).headD 0) [[[4]], [[-3]], [[0]]] (9, [[9]], none)
      = ([([[4]], 4), ([[0]], 0), ([[0]], 0)], (0, [[0]], some 1)) := by decide +kernel
/-- nobody better: incumbent untouched -/
example :
    (gpSweep [0] [5] (fun p => (p.headD []).headD 0) [[[4]], [[7]]] (2, [[2]], none)).2
      = (2, [[2]], none) := by decide +kernel

#print axioms gpSweep_agents_eq
#print axioms gpSweep_agents
#print axioms gpSweep_agents_fit
#print axioms gpSweep_best
#print axioms gpSweep_best_changed_iff
#print axioms gpSweep_best_le
#print axioms gpSweep_inBox
#print axioms gpSweep_best_inBox

end Opy
