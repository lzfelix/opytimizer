import OpyVerif.Proofs.Lemmas.TreeOpsLemmas
/-
C08 (operators): the genetic-programming operators, as the code performs them pointer write by
pointer write, keep expression trees well formed (`WF`: non-empty, root without parent, every
stored parent / flag right, every arity right, no node twice) — for every tree, every point.
-/
namespace Opy
namespace PNode

/-- One pointer write `node.<side> = b` with the re-linking of `b` keeps a tree well formed when
    the slot held a child, `b` is a non-empty root-shaped, well-aritied branch without repeated
    nodes, and the only nodes `b` shares with the tree are nodes of the child it replaces.
    (That the slot's parent `pid` is a node of `t`, and is not inside the replaced child, both
    follow from the hypotheses.) -/
theorem setChild_wf {ar : Nat → Nat} {pid : Nat} {side : Bool} {b t : PNode}
    (ht : WF ar t) (hbk : KidsLinked b) (hba : Arity ar b) (hbn : b ≠ nil) (hbnd : b.ids.Nodup)
    (hfresh : ∀ x ∈ b.ids, x ∈ t.ids → x ∈ (childOf pid side t).ids)
    (hc : childOf pid side t ≠ nil) :
    WF ar (setChild pid side b t) := by
  obtain ⟨hne, hroot, hk, ha, hnd⟩ := ht
  have hmem : pid ∈ t.ids := Decidable.of_not_not fun h => hc (childOf_of_not_mem h)
  refine ⟨fun e => hne (setChild_eq_nil.1 e), ?_, kidsLinked_setChild pid side b hbk t hk,
    arity_setChild hba hbn t hnd hmem ha hc, ?_⟩
  · rw [storedPar_setChild]; exact hroot
  · rw [List.nodup_iff_count]
    intro a
    have hcount := ids_setChild_count pid side b a hnd hmem
    have h1 := List.nodup_iff_count.1 hnd a
    have h2 := List.nodup_iff_count.1 hbnd a
    have h3 : 0 < b.ids.count a → 0 < t.ids.count a → 0 < (childOf pid side t).ids.count a :=
      fun hb hta => List.count_pos_iff.2 (hfresh a (List.count_pos_iff.1 hb) (List.count_pos_iff.1 hta))
    omega

/-- a slot returned by `find_node` on a proper tree always designates an existing child -/
theorem findNode_slot_child_ne_nil {ar : Nat → Nat} {t : PNode} {p pid : Nat} {side : Bool}
    (hwf : WF ar t) (h : findNode t p = .slot pid side) : childOf pid side t ≠ nil := by
  obtain ⟨_, node, hp, hc | ⟨_, q, _, hl⟩⟩ := findNode_slot_spec hwf h
  · rw [hc.2]; exact mem_pre_ne_nil _ _ (List.mem_of_getElem? hp)
  · exact mem_pre_ne_nil _ _ (lookup_some hl).1

/-- `GP._mutate`: grafting a freshly grown well-formed branch (no node in common with the
    individual) at any point of a well-formed individual gives a well-formed individual. -/
theorem mutate_wf {ar : Nat → Nat} {t branch t' : PNode} {p : Nat}
    (ht : WF ar t) (hb : WF ar branch) (hdis : ∀ x ∈ branch.ids, x ∉ t.ids)
    (h : mutate t p branch = some t') : WF ar t' := by
  rcases mutate_cases h with ⟨pid, side, hf, rfl⟩ | rfl
  · obtain ⟨hbn, _, hbk, hba, hbnd⟩ := hb
    exact setChild_wf ht hbk hba hbn hbnd (fun x hx hxt => absurd hxt (hdis x hx))
      (findNode_slot_child_ne_nil ht hf)
  · exact hb

/-- `GP._cross`: both offspring of two well-formed parents without a common node are well
    formed. -/
theorem cross_wf {ar : Nat → Nat} {f m f' m' : PNode} {pf pm : Nat}
    (hf : WF ar f) (hm : WF ar m) (hdis : ∀ x ∈ f.ids, x ∉ m.ids)
    (h : cross f m pf pm = some (f', m')) : WF ar f' ∧ WF ar m' := by
  rcases cross_cases h with ⟨sf, ff, sm, fm, hsf, hsm, rfl, rfl⟩ | ⟨rfl, rfl⟩
  · have hcf := findNode_slot_child_ne_nil hf hsf
    have hcm := findNode_slot_child_ne_nil hm hsm
    have ⟨_, _, hkf, haf, hndf⟩ := hf
    have ⟨_, _, hkm, ham, hndm⟩ := hm
    constructor
    · exact setChild_wf hf (childOf_kidsLinked hkm) (childOf_arity ham) hcm (childOf_nodup hndm)
        (fun x hx hxf => absurd (childOf_ids_subset hx) (hdis x hxf)) hcf
    · exact setChild_wf hm (childOf_kidsLinked hkf) (childOf_arity haf) hcf (childOf_nodup hndf)
        (fun x hx hxm => absurd hxm (hdis x (childOf_ids_subset hx))) hcm
  · exact ⟨hf, hm⟩

/-- the offspring of parents without a common node have no common node -/
theorem cross_disjoint {ar : Nat → Nat} {f m f' m' : PNode} {pf pm : Nat}
    (hf : WF ar f) (hm : WF ar m) (hdis : ∀ x ∈ f.ids, x ∉ m.ids)
    (h : cross f m pf pm = some (f', m')) : ∀ x ∈ f'.ids, x ∉ m'.ids := by
  have hnd : (f.ids ++ m.ids).Nodup :=
    List.nodup_append.2 ⟨hf.nodup, hm.nodup, fun a ha b hb e => hdis a ha (e ▸ hb)⟩
  have hnd' := (cross_ids_perm hf hm h).nodup_iff.2 hnd
  intro x hx hx'
  exact (List.nodup_append.1 hnd').2.2 x hx x hx' rfl

end PNode
end Opy

#print axioms Opy.PNode.setChild_wf
#print axioms Opy.PNode.mutate_wf
#print axioms Opy.PNode.cross_wf
#print axioms Opy.PNode.cross_disjoint
#print axioms Opy.PNode.findNode_slot_child_ne_nil
