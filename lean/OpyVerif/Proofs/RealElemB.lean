import Mathlib.Analysis.SpecialFunctions.Pow.Real
import Mathlib.Analysis.SpecialFunctions.Gamma.Basic
import Mathlib.Analysis.SpecialFunctions.Trigonometric.Basic
import Mathlib.Analysis.SpecialFunctions.Log.Basic
import Mathlib.Analysis.SpecialFunctions.Sqrt
import Mathlib.Tactic.NormNum.OfScientific
import OpyVerif.Model.Num
/-!
The proof-side instance `Elem ℝ` and the simp lemmas that unfold every `Elem` operation at `ℝ`
to the corresponding Mathlib operation.

`Elem` extends `Add … Neg`, so its parent projections are instances.  Once `Elem ℝ` exists they
would compete with Mathlib's own `Add ℝ`, `Div ℝ`, … whenever `a / b : ℝ` is elaborated (observed:
`b / a` picked `Elem.toDiv`).  The projections are therefore given a low priority here; for an
abstract `α` with `[Elem α]` they stay the only candidates, so the model files are unaffected.

`Proofs/RealElem.lean` declares `instElemReal`, the same structure (`instElemReal = instElemRealB` holds by
`rfl`) registered the other way round: a non-reducible definition whose projections keep their priority.
C17 and its helpers are stated with the instance of this file, C03 C10 C13 C15 C16 C18 with that one.
A module that imports both resolves `Elem ℝ` to whichever was imported last, and a lemma stated with
the other instance then no longer matches syntactically under `rw`/`simp`: state theorems in modules
that see one of the two only.  The unfolding lemmas of this file are in the namespace `RealElem` (`open RealElem` in
BenchLemmas and C17 means them); those of `Proofs/RealElem.lean` are `Opy.elem_add` … `Opy.elem_gamma`.
-/
namespace Opy

attribute [instance 10] Elem.toAdd Elem.toSub Elem.toMul Elem.toDiv Elem.toNeg

noncomputable instance instElemRealB : Elem ℝ where
  toAdd := Real.instAdd
  toSub := Real.instSub
  toMul := Real.instMul
  toDiv := inferInstance
  toNeg := Real.instNeg
  ofNat' n := (n : ℝ)
  ofSci m s e := (OfScientific.ofScientific m s e : ℝ)
  exp := Real.exp
  log := Real.log
  sin := Real.sin
  cos := Real.cos
  sqrt := Real.sqrt
  abs := fun x => |x|
  pow := fun x y => x ^ y
  pi := Real.pi
  gamma := Real.Gamma

namespace RealElem

@[simp] theorem add_def (a b : ℝ) :
    @HAdd.hAdd ℝ ℝ ℝ (@instHAdd ℝ (@Elem.toAdd ℝ instElemRealB)) a b = a + b := rfl
@[simp] theorem sub_def (a b : ℝ) :
    @HSub.hSub ℝ ℝ ℝ (@instHSub ℝ (@Elem.toSub ℝ instElemRealB)) a b = a - b := rfl
@[simp] theorem mul_def (a b : ℝ) :
    @HMul.hMul ℝ ℝ ℝ (@instHMul ℝ (@Elem.toMul ℝ instElemRealB)) a b = a * b := rfl
@[simp] theorem div_def (a b : ℝ) :
    @HDiv.hDiv ℝ ℝ ℝ (@instHDiv ℝ (@Elem.toDiv ℝ instElemRealB)) a b = a / b := rfl
@[simp] theorem neg_def (a : ℝ) : @Neg.neg ℝ (@Elem.toNeg ℝ instElemRealB) a = -a := rfl
@[simp] theorem ofNat'_def (n : ℕ) : (Elem.ofNat' n : ℝ) = (n : ℝ) := rfl
@[simp] theorem ofSci_def (m : ℕ) (s : Bool) (e : ℕ) :
    (Elem.ofSci m s e : ℝ) = (OfScientific.ofScientific m s e : ℝ) := rfl
@[simp] theorem exp_def (a : ℝ) : Elem.exp a = Real.exp a := rfl
@[simp] theorem log_def (a : ℝ) : Elem.log a = Real.log a := rfl
@[simp] theorem sin_def (a : ℝ) : Elem.sin a = Real.sin a := rfl
@[simp] theorem cos_def (a : ℝ) : Elem.cos a = Real.cos a := rfl
@[simp] theorem sqrt_def (a : ℝ) : Elem.sqrt a = Real.sqrt a := rfl
@[simp] theorem abs_def (a : ℝ) : Elem.abs a = |a| := rfl
@[simp] theorem pow_def (a b : ℝ) : Elem.pow a b = a ^ b := rfl
@[simp] theorem pi_def : (Elem.pi : ℝ) = Real.pi := rfl
@[simp] theorem gamma_def (a : ℝ) : Elem.gamma a = Real.Gamma a := rfl

theorem sumL_eq_sum (xs : List ℝ) : sumL xs = xs.sum := by
  unfold sumL
  simp only [add_def, ofNat'_def, Nat.cast_zero]
  exact List.sum_eq_foldl.symm

end RealElem
end Opy
