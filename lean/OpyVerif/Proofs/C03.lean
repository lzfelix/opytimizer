import OpyVerif.Model.Skel
import OpyVerif.Proofs.Lemmas.MachineSpec
/-!
C03 — every task runs exactly `n_iterations` iterations, hook first.

Part 1 (this file, all `N`): for every skeleton that satisfies `Good` — and the generated file
proves `Good` of each of the 17 `run()` methods on every build — the event pattern of a run
with `N` iterations has `N + 1` hooks, `N` dumps, `N + 1` sweeps, every hook is immediately
followed by the sweep, and (when the kind needs it) the space-wide clip immediately precedes
the hook with no update step in between.
Part 2: the machine counts hooks and dumps; accepted histories have them in step.
-/
namespace Opy

theorem count_append (e : SEv) (a b : List SEv) : count e (a ++ b) = count e a + count e b := by
  simp [count, List.filter_append]

theorem run_count (sk : Skeleton) (e : SEv) (N : Nat) :
    count e (runSkel sk N) = count e (evs sk.pre) + N * count e (evs sk.body) := by
  induction N with
  | zero => simp [runSkel]
  | succ n ih => simp only [runSkel, count_append, ih]; rw [Nat.succ_mul]; omega

theorem count_all_eq (e x : SEv) (l : List SEv) (h : ∀ y ∈ l, y = x) (hne : x ≠ e) : count e l = 0 := by
  simp only [count, List.length_eq_zero_iff, List.filter_eq_nil_iff]
  intro y hy; rw [h y hy]; simpa using hne

theorem good_shape {needClip : Bool} {sk : Skeleton} (h : Good needClip sk = true) :
    evs sk.pre = [.hook, .sweep] ∧
    ∃ (upd post : List SEv), upd ≠ [] ∧ (∀ x ∈ upd, x = .update) ∧ (∀ x ∈ post, x = .post) ∧
      evs sk.body = upd ++ (if needClip then [.clipAll, .hook, .sweep] else [.hook, .sweep]) ++ post ++ [.dump] := by
  simp only [Good, goodBody, Bool.and_eq_true, Bool.not_eq_true', beq_iff_eq] at h
  obtain ⟨⟨⟨⟨hpre, ⟨h1, h2⟩, h3⟩, _⟩, _⟩, _⟩ := h
  refine ⟨hpre, ?_⟩
  -- the three `takeWhile`s of `goodBody` cut the body's events into the four pieces
  have e1 := List.takeWhile_append_dropWhile (p := (· == SEv.update)) (l := evs sk.body)
  have hA := List.all_eq_true.1 (List.all_takeWhile (p := (· == SEv.update)) (l := evs sk.body))
  generalize (evs sk.body).takeWhile (· == SEv.update) = A at *
  generalize (evs sk.body).dropWhile (· == SEv.update) = B at *
  have e2 := List.takeWhile_append_dropWhile
    (p := fun x => x == SEv.clipAll || x == .hook || x == .sweep) (l := B)
  rw [h2] at e2
  generalize B.dropWhile (fun x => x == SEv.clipAll || x == .hook || x == .sweep) = C at *
  have e3 := List.takeWhile_append_dropWhile (p := (· == SEv.post)) (l := C)
  have hP := List.all_eq_true.1 (List.all_takeWhile (p := (· == SEv.post)) (l := C))
  rw [h3] at e3
  generalize C.takeWhile (· == SEv.post) = P at *
  refine ⟨A, P, ?_, ?_, ?_, ?_⟩
  · intro hc; rw [hc] at h1; simp at h1
  · intro x hx; simpa using hA x hx
  · intro x hx; simpa using hP x hx
  · rw [← e1, ← e2, ← e3]; simp [List.append_assoc]

theorem good_count {needClip : Bool} {sk : Skeleton} (h : Good needClip sk = true) (e : SEv)
    (hu : SEv.update ≠ e) (hp : SEv.post ≠ e) (hc : SEv.clipAll ≠ e) (N : Nat) :
    count e (runSkel sk N) = count e [.hook, .sweep] + N * (count e [.hook, .sweep] + count e [.dump]) := by
  obtain ⟨hpre, upd, post, _, hupd, hpost, hev⟩ := good_shape h
  -- the clip, where there is one, is not counted either
  have hblock : count e (if needClip then [.clipAll, .hook, .sweep] else [.hook, .sweep]) = count e [.hook, .sweep] := by
    cases needClip
    · rfl
    · exact (count_append e [.clipAll] _).trans (by rw [count_all_eq e .clipAll [.clipAll] (by simp) hc, Nat.zero_add])
  rw [run_count, hpre, hev]
  simp only [count_append, count_all_eq e .update upd hupd hu, count_all_eq e .post post hpost hp, hblock,
    Nat.zero_add, Nat.add_zero]

/-- **hook count**: a `Good` skeleton calls the hook exactly `N + 1` times … -/
theorem hook_count (needClip : Bool) (sk : Skeleton) (h : Good needClip sk = true) (N : Nat) :
    count .hook (runSkel sk N) = N + 1 := by
  rw [good_count h .hook (by decide) (by decide) (by decide)]
  simp [count]; omega

/-- … writes exactly `N` records … -/
theorem dump_count (needClip : Bool) (sk : Skeleton) (h : Good needClip sk = true) (N : Nat) :
    count .dump (runSkel sk N) = N := by
  rw [good_count h .dump (by decide) (by decide) (by decide)]
  simp [count]

/-- … and sweeps `N + 1` times. -/
theorem sweep_count (needClip : Bool) (sk : Skeleton) (h : Good needClip sk = true) (N : Nat) :
    count .sweep (runSkel sk N) = N + 1 := by
  rw [good_count h .sweep (by decide) (by decide) (by decide)]
  simp [count]; omega

/-- in a list, every occurrence of `a` is immediately followed by `b` -/
def FollowedBy (a b : SEv) : List SEv → Prop
  | [] => True
  | [x] => x ≠ a
  | x :: y :: rest => (x = a → y = b) ∧ FollowedBy a b (y :: rest)

/-- every `a` in `l` is immediately followed by `b` and `l` does not end in `a`: unlike
    `FollowedBy` alone, this is closed under `++` -/
def Paired (a b : SEv) (l : List SEv) : Prop :=
  FollowedBy a b l ∧ ∀ x, l.getLast? = some x → x ≠ a

theorem Paired.append {a b : SEv} : ∀ {l1 l2 : List SEv},
    Paired a b l1 → Paired a b l2 → Paired a b (l1 ++ l2)
  | [], _, _, h2 => h2
  | [_], [], h1, _ => h1
  | [x], _ :: _, h1, h2 => ⟨⟨fun hx => absurd hx (h1.2 x rfl), h2.1⟩, h2.2⟩
  | _ :: y :: rest, _, h1, h2 =>
    have ih := Paired.append (l1 := y :: rest) ⟨h1.1.2, h1.2⟩ h2
    ⟨⟨h1.1.1, ih.1⟩, ih.2⟩

theorem paired_of_all_ne {a b : SEv} : ∀ {l : List SEv}, (∀ x ∈ l, x ≠ a) → Paired a b l
  | [], _ => ⟨trivial, nofun⟩
  | x :: _, h =>
    Paired.append (l1 := [x]) ⟨h x (List.mem_cons_self ..), fun _ hx => Option.some.inj hx ▸ h x (List.mem_cons_self ..)⟩
      (paired_of_all_ne fun z hz => h z (List.mem_cons_of_mem _ hz))

/-- **hook first**: in every run of a `Good` skeleton each hook is immediately followed by
    the evaluation sweep (nothing can modify the state the hook left behind) -/
theorem sweep_follows_hook (needClip : Bool) (sk : Skeleton) (h : Good needClip sk = true) (N : Nat) :
    FollowedBy .hook .sweep (runSkel sk N) ∧ (∀ x, (runSkel sk N).getLast? = some x → x ≠ .hook) := by
  obtain ⟨hpre, upd, post, _, hu, hp, hev⟩ := good_shape h
  -- the statement is `Paired .hook .sweep (runSkel sk N)` unfolded; each of the four pieces of the body pairs its hooks,
  -- hence so do the body and the run
  have hblock : Paired .hook .sweep (if needClip then [.clipAll, .hook, .sweep] else [.hook, .sweep]) := by
    cases needClip <;> simp [Paired, FollowedBy]
  have hbody : Paired .hook .sweep (evs sk.body) := by
    rw [hev]
    exact (((paired_of_all_ne fun x hx => by rw [hu x hx]; decide).append hblock).append
      (paired_of_all_ne fun x hx => by rw [hp x hx]; decide)).append (by simp [Paired, FollowedBy])
  induction N with
  | zero => rw [runSkel, hpre]; simp [FollowedBy]
  | succ n ih => exact Paired.append ih hbody

/-- **clip before the sweep** (static companion of C01): when the kind needs the space-wide
    clip, every hook is immediately preceded by it — no update step lies between limit
    enforcement and the evaluation sweep -/
theorem clip_precedes_hook (sk : Skeleton) (h : Good true sk = true) :
    ∃ upd post, (∀ x ∈ upd, x = SEv.update) ∧ (∀ x ∈ post, x = SEv.post) ∧
      evs sk.body = upd ++ [.clipAll, .hook, .sweep] ++ post ++ [.dump] := by
  obtain ⟨_, upd, post, _, hu, hp, hev⟩ := good_shape h
  exact ⟨upd, post, hu, hp, hev⟩

theorem apply_counts (cfg : Cfg) (s s' : St) (e : Ev) (h : apply cfg s e = some s') :
    (s'.hooks = s.hooks + (match e with | .hook _ => 1 | _ => 0)) ∧
    (s'.dumps = s.dumps + (match e with | .dump => 1 | _ => 0)) := by
  cases e with
  | hook pop' => obtain ⟨rfl, _⟩ := hook_spec h; exact ⟨rfl, rfl⟩
  | update pop' => obtain ⟨rfl, _⟩ := update_spec h; exact ⟨rfl, rfl⟩
  | trial p v pop' => obtain ⟨rfl, _⟩ := trial_spec h; exact ⟨rfl, rfl⟩
  | trialSwap p v i => obtain ⟨a, _, rfl, _⟩ := trialSwap_spec h; exact ⟨rfl, rfl⟩
  | sweep v tie r => obtain ⟨a, _, rfl, _⟩ := sweep_spec h; exact ⟨rfl, rfl⟩
  | clipAll => obtain ⟨rfl, _⟩ := clipAll_spec h; exact ⟨rfl, rfl⟩
  | dump => obtain ⟨rfl, _⟩ := dump_spec h; exact ⟨rfl, rfl⟩

/-- non-vacuity: a PSO-like skeleton is `Good` and a skeleton that lost its clip is not -/
def demoSkel : Skeleton :=
  { pre := [.assign "local_position", .hook true, .sweep, .assign "history"],
    body := [.update "_update", .clipAll, .hook true, .sweep,
             .dump [("agents", "space.agents"), ("local", "local_position"), ("best_agent", "space.best_agent")]],
    loopBound := "space.n_iterations", returnsHistory := true }
example : Good true demoSkel = true := by decide +kernel
example : Good true { demoSkel with body := demoSkel.body.filter (· != .clipAll) } = false := by decide +kernel

end Opy
