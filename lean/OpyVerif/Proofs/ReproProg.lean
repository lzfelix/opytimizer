import OpyVerif.Model.ReproProg
/-!
The expected `_reproduction` record is `PNode.reproduction`, for every population, working fitness and
tournament outcome.
-/
namespace Opy

theorem reproStepM_zero {α β : Type} (cpT : α → α) (cpA : β → β) (st : List α × List β × List Int) (s : Nat) :
    reproStepM cpT cpA 0 st s = PNode.reproStep cpT cpA st s := by
  obtain ⟨t, a, f⟩ := st
  unfold reproStepM PNode.reproStep
  dsimp only
  cases t[s]? <;> cases a[s]? <;> rfl

theorem reproLoop_is_reproduction {α β : Type} (cpT : α → α) (cpA : β → β)
    (trees : List α) (agents : List β) (fit : List Int) (selected : List Nat) :
    Expected.reproLoop.run cpT cpA trees agents fit selected = some (PNode.reproduction cpT cpA trees agents fit selected) :=
  -- `wellFormed` and `marker.getD 0` of the expected record reduce by evaluation, so `run` is by definition `some` of the
  -- fold of `reproStepM … 0` over `selected`; the other side is `some` of the fold of `reproStep`
  congrArg (fun step => some (selected.foldl step (trees, agents, fit)))
    (funext fun st => funext (reproStepM_zero cpT cpA st))

theorem reproLoop_wellFormed : Expected.reproLoop.wellFormed = true := by decide

end Opy
