import OpyVerif.Model.TreeEval
import OpyVerif.Proofs.RealElem
/-!
C10 (real part) — the protections of the GP operators, read at `ℝ`.

* SQRT is `sqrt |x|`: the argument is never negative and the result squares back to `|x|`;
* LOG is `log (|x| + eps)`: for `eps > 0` the argument is strictly positive;
* DIV is `x / (y + eps)`: the denominator vanishes exactly at `y = -eps` (the protection moves
  the pole from `0` to `-eps`, it does not remove it).

`binOp_div_real`, `binOp_sub_real`, `unOp_sqrt_real` and `unOp_log_real` restate the operator tables of `evalTree` at `ℝ` in Mathlib's vocabulary.
-/
namespace Opy

/-- the argument of the protected square root is never negative … -/
theorem sqrt_abs_defined (x : ℝ) : 0 ≤ |x| := abs_nonneg x

/-- … so the protected square root is a genuine square root of `|x|` -/
theorem sqrt_abs_sq (x : ℝ) : Real.sqrt (|x|) ^ 2 = |x| := Real.sq_sqrt (abs_nonneg x)

/-- the argument of the protected logarithm is strictly positive for a positive `eps` -/
theorem log_abs_eps_pos (x eps : ℝ) (h : 0 < eps) : 0 < |x| + eps :=
  add_pos_of_nonneg_of_pos (abs_nonneg x) h

/-- hence `exp ∘ log` is the identity on it: the protected logarithm is the real logarithm of
    a positive number (no `log 0 = 0` junk value is ever used) -/
theorem exp_log_abs_eps (x eps : ℝ) (h : 0 < eps) : Real.exp (Real.log (|x| + eps)) = |x| + eps :=
  Real.exp_log (log_abs_eps_pos x eps h)

/-- the protected division has a non-zero denominator iff `y ≠ -eps` -/
theorem div_defined_iff (y eps : ℝ) : y + eps ≠ 0 ↔ y ≠ -eps := by
  rw [ne_eq, ne_eq, add_eq_zero_iff_eq_neg]

/-- where it is defined, the protected quotient is a genuine quotient -/
theorem div_mul_cancel_protected (x y eps : ℝ) (h : y ≠ -eps) : x / (y + eps) * (y + eps) = x :=
  div_mul_cancel₀ x ((div_defined_iff y eps).mpr h)

/-- in particular non-negative operands are always safe for a positive `eps` -/
theorem div_defined_of_nonneg (y eps : ℝ) (hy : 0 ≤ y) (h : 0 < eps) : y + eps ≠ 0 :=
  ne_of_gt (add_pos_of_nonneg_of_pos hy h)

theorem binOp_div_real (eps : ℝ) : binOp eps 3 = some (fun x y : ℝ => x / (y + eps)) := rfl

theorem binOp_sub_real (eps : ℝ) : binOp eps 1 = some (fun x y : ℝ => x - y) := rfl

theorem unOp_sqrt_real (eps : ℝ) : unOp eps 5 = some (fun x : ℝ => Real.sqrt |x|) := rfl

theorem unOp_log_real (eps : ℝ) : unOp eps 6 = some (fun x : ℝ => Real.log (|x| + eps)) := rfl

/-- non-vacuity: the pole of the protected division is real -/
example : (1 : ℝ) / ((-1) + 1) = 0 := by norm_num

#print axioms sqrt_abs_defined
#print axioms sqrt_abs_sq
#print axioms log_abs_eps_pos
#print axioms exp_log_abs_eps
#print axioms div_defined_iff
#print axioms div_mul_cancel_protected
#print axioms div_defined_of_nonneg
#print axioms binOp_div_real
#print axioms binOp_sub_real
#print axioms unOp_sqrt_real
#print axioms unOp_log_real

end Opy
