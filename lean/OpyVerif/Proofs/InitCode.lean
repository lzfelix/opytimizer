import OpyVerif.Proofs.InitCodeSearch
import OpyVerif.Proofs.InitCodeHyper
import OpyVerif.Proofs.InitCodeTerminals
-- imports only (the three initialisers, one module per regenerated obligation): `harness/registry.py` names this module
