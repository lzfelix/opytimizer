import OpyVerif.Proofs.C16
import OpyVerif.Proofs.Formulas
import OpyVerif.Generated.FormulasC16
/-!
C16 stated about the *translated source*: the expressions of `Generated/FormulasDefs.lean` are what
`harness/translate_formulas.py` read from the current working tree.  Each theorem composes the
regenerated equality "source = expected expression" (`Generated/FormulasC16.lean`, re-decided on
every build), the denotation theorem of `Proofs/Formulas.lean` (expected expression = model, all
inputs) and the real-number theorem about the model.  What is translated is the loop's shape
(`Gen.weightedRule`) and its body (`Gen.weightedBody`); `bodyStep` of `Proofs/Formulas.lean` runs the body once,
`codeWeighted` folds it over `zip(weights, component values)`.
-/
namespace Opy

/-- the value the translated loop returns -/
noncomputable def codeWeighted (ws vals : List ℝ) : ℝ :=
  (List.zip ws vals).foldl (fun z p => bodyStep Gen.weightedBody z p.1 p.2) (0 : ℝ)

/-- the translated loop computes the model's `weighted` -/
theorem code_weighted_eq_model (ws vals : List ℝ) : codeWeighted ws vals = weighted ws vals := by
  unfold codeWeighted
  rw [Gen.weightedRule_eq.2, ← Nat.cast_zero]
  exact weighted_is_body_fold ws vals

/-- folding the *translated* loop body over `zip(weights, component values)` from `z = 0` is the
    mathematical weighted sum -/
theorem code_weighted_eq_sum (ws vals : List ℝ) :
    (List.zip ws vals).foldl (fun z p => bodyStep Gen.weightedBody z p.1 p.2) (0 : ℝ)
      = ((List.zip ws vals).map fun p => p.1 * p.2).sum :=
  (code_weighted_eq_model ws vals).trans (weighted_eq_sum ws vals)

/-- the translated loop with a single component of weight one returns that component's value -/
theorem code_weighted_single_one (v : ℝ) : codeWeighted [1] [v] = v := by
  rw [code_weighted_eq_model]; exact weighted_single_one v

/-- the translated loop: non-negative weights, components bounded below by `m` — the value is at least `m · Σ w` -/
theorem code_weighted_lower_bound (m : ℝ) (ws vals : List ℝ) (h : ws.length = vals.length)
    (hw : ∀ w ∈ ws, 0 ≤ w) (hv : ∀ v ∈ vals, m ≤ v) : m * ws.sum ≤ codeWeighted ws vals := by
  rw [code_weighted_eq_model]; exact weighted_lower_bound m ws vals h hw hv

/-- the translated loop: non-negative weights — the value is monotone in every component value -/
theorem code_weighted_mono (ws vals vals' : List ℝ) (h : vals.length = vals'.length)
    (hw : ∀ w ∈ ws, 0 ≤ w) (hv : ∀ i (h1 : i < vals.length) (h2 : i < vals'.length), vals[i] ≤ vals'[i]) :
    codeWeighted ws vals ≤ codeWeighted ws vals' := by
  rw [code_weighted_eq_model, code_weighted_eq_model]; exact weighted_mono ws vals vals' h hw hv

/-- the translated loop: scaling every weight scales the value -/
theorem code_weighted_smul (c : ℝ) (ws vals : List ℝ) :
    codeWeighted (ws.map (c * ·)) vals = c * codeWeighted ws vals := by
  rw [code_weighted_eq_model, code_weighted_eq_model]; exact weighted_smul c ws vals

/-- the loop's shape: accumulator starts at `0`, iterates `zip(self.functions, self.weights)`
    unpacked as `(f, w)`, returns the accumulator -/
theorem code_weighted_rule :
    Gen.weightedRule = ["z = 0", "zip(self.functions, self.weights)", "(f, w)", "z"] := by
  rw [Gen.weightedRule_eq.1]; rfl

end Opy
