import OpyVerif.Proofs.SweepProg
import OpyVerif.Generated.Sweeps.psoSweep_eq
/-!
The machine's sweep rule is what the *translated* `PSO._evaluate` does: `Gen.psoSweep` is read from the current
working tree; some tie flag makes its loop body equal to `sweepAgent` / `takes` / `bestOf` of `Model/Machine` — the rule
every C02 / C03 / C20 machine theorem is about.  (One module per translated sweep: an unreadable rewrite of one `_evaluate`
leaves the statements about the other two standing.)
-/
namespace Opy

theorem code_psoSweep (cfg : Cfg) (hs : cfg.swarm = true) (a best : Ag) (v : Int) (fresh : Nat) (tp : Pos) :
    ∃ tie, Gen.psoSweep.body cfg.lbs cfg.ubs tp v fresh a best =
      (sweepAgent cfg a v, if takes best (sweepAgent cfg a v) tie then bestOf (sweepAgent cfg a v) fresh else best) := by
  rcases Gen.psoSweep_eq with h | h <;> rw [h]
  · exact ⟨false, psoSweep_is_machine_rule cfg hs a best v fresh tp⟩
  · exact ⟨true, psoSweepLe_is_machine_rule cfg hs a best v fresh tp⟩

end Opy
