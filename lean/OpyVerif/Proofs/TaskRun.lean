import OpyVerif.Model.TaskRun
import OpyVerif.Proofs.C03
import OpyVerif.Proofs.Lemmas.MachineSpec
import OpyVerif.Proofs.Lemmas.ListLemmas
/-!
The sweep-level clauses of C01, C02, C03 and C04 about a whole task (`Model/TaskRun.runTask`), for every number of
iterations, every objective and every update / hook / post oracle.  The only facts used about the program are the ones the
regenerated obligations establish: the skeleton is `Good`, the clip loop projects into the box, the sweep is the machine's
sweep rule.
-/
namespace Opy
namespace Task

/-- inside the loop: at least one update, then (clip,) hook, sweep, then post steps, then the dump — nothing else -/
theorem good_pattern (nc : Bool) (sk : Skeleton) (h : Good nc sk = true) :
    evs sk.pre = [.hook, .sweep] ∧
    ∃ a b, evs sk.body = List.replicate (a + 1) .update ++ (if nc then [.clipAll, .hook, .sweep] else [.hook, .sweep])
      ++ List.replicate b .post ++ [.dump] := by
  obtain ⟨hpre, upd, post, hne, hupd, hpost, hev⟩ := good_shape h
  obtain ⟨a, ha⟩ := Nat.exists_eq_succ_of_ne_zero (mt List.length_eq_zero_iff.mp hne)
  rw [List.eq_replicate_iff.mpr ⟨ha, hupd⟩, List.eq_replicate_iff.mpr ⟨rfl, hpost⟩] at hev
  exact ⟨hpre, a, post.length, hev⟩

section
variable (p : TaskProg) (lbs ubs : List Int) (o : TaskOracle)

theorem exec_append (s : TaskSt) (xs ys : List SEv) :
    p.exec lbs ubs o s (xs ++ ys) = p.exec lbs ubs o (p.exec lbs ubs o s xs) ys :=
  List.foldl_append

theorem exec_cons (s : TaskSt) (x : SEv) (xs : List SEv) :
    p.exec lbs ubs o s (x :: xs) = p.exec lbs ubs o (p.execEv lbs ubs o s x) xs := rfl

theorem exec_nil (s : TaskSt) : p.exec lbs ubs o s [] = s := rfl

theorem runTask_zero (s0 : TaskSt) : p.runTask lbs ubs o s0 0 = p.exec lbs ubs o s0 (evs p.skel.pre) := rfl

theorem runTask_succ (s0 : TaskSt) (n : Nat) :
    p.runTask lbs ubs o s0 (n + 1) = p.exec lbs ubs o (p.runTask lbs ubs o s0 n) (evs p.skel.body) :=
  exec_append p lbs ubs o s0 (runSkel p.skel n) (evs p.skel.body)

theorem exec_inv (P : TaskSt → Prop) (es : List SEv) (hstep : ∀ ev ∈ es, ∀ s, P s → P (p.execEv lbs ubs o s ev))
    (s : TaskSt) (h : P s) : P (p.exec lbs ubs o s es) :=
  List.foldlRecOn es _ h fun s hs ev hev => hstep ev hev s hs

theorem runTask_inv {nc : Bool} (hg : Good nc p.skel = true) (P : TaskSt → Prop)
    (hstep : ∀ ev s, P s → P (p.execEv lbs ubs o s ev)) (s0 : TaskSt)
    (h0 : P (p.execEv lbs ubs o (p.execEv lbs ubs o s0 .hook) .sweep)) (N : Nat) : P (p.runTask lbs ubs o s0 N) := by
  induction N with
  | zero => rw [runTask_zero, (good_pattern nc p.skel hg).1]; exact h0
  | succ n ih => rw [runTask_succ]; exact exec_inv p lbs ubs o P _ (fun ev _ => hstep ev) _ ih

/-- the last update stands apart: `runTask_iter` names what it returned -/
theorem runTask_succ_events (hg : Good true p.skel = true) : ∃ a b, ∀ s0 n, p.runTask lbs ubs o s0 (n + 1) =
    p.execEv lbs ubs o (p.exec lbs ubs o (p.execEv lbs ubs o (p.execEv lbs ubs o (p.execEv lbs ubs o (p.execEv lbs ubs o
      (p.exec lbs ubs o (p.runTask lbs ubs o s0 n) (List.replicate a .update)) .update) .clipAll) .hook) .sweep)
      (List.replicate b .post)) .dump := by
  obtain ⟨_, a, b, hbody⟩ := good_pattern true p.skel hg
  refine ⟨a, b, fun s0 n => ?_⟩
  rw [runTask_succ, hbody]
  simp only [if_true, List.append_assoc, List.replicate_succ', exec_append, exec_cons, exec_nil]

theorem runTask_end (hg : Good true p.skel = true) (Q : TaskSt → Prop) (hs : ∀ s, Q (p.execEv lbs ubs o s .sweep))
    (hq : ∀ ev, ev = .post ∨ ev = .dump → ∀ s, Q s → Q (p.execEv lbs ubs o s ev)) (s0 : TaskSt) (N : Nat) :
    Q (p.runTask lbs ubs o s0 N) := by
  cases N with
  | zero => rw [runTask_zero, (good_pattern true p.skel hg).1]; exact hs _
  | succ n =>
    obtain ⟨a, b, hb⟩ := runTask_succ_events p lbs ubs o hg
    rw [hb]
    exact hq .dump (.inr rfl) _
      (exec_inv p lbs ubs o Q _ (fun ev hev => hq ev (.inl (List.eq_of_mem_replicate hev))) _ (hs _))

theorem exec_quiet_logs (es : List SEv) (hq : ∀ ev ∈ es, ev = .update ∨ ev = .post) (s : TaskSt) :
    let s' := p.exec lbs ubs o s es
    s'.evals = s.evals ∧ s'.hookOut = s.hookOut ∧ s'.sweepArgs = s.sweepArgs ∧ s'.dumps = s.dumps := by
  refine exec_inv p lbs ubs o (fun s' => s'.evals = s.evals ∧ s'.hookOut = s.hookOut ∧ s'.sweepArgs = s.sweepArgs ∧ s'.dumps = s.dumps)
    es ?_ s ⟨rfl, rfl, rfl, rfl⟩
  intro ev hev s' h
  rcases hq ev hev with rfl | rfl <;> exact h

/-- updates return positions with the declared number of rows; a user hook that is handed a population inside the box
    leaves it inside the box (the two assumptions of C01 that no source can establish) -/
structure OracleOK (nrows : Nat) (blo bhi : List Int) (o : TaskOracle) : Prop where
  updRows : ∀ k st, ∀ a ∈ (o.upd k st).1, a.pos.length = nrows
  hookBox : ∀ k st, (∀ a ∈ st.1, InBox blo bhi a.pos) → ∀ a ∈ (o.hook k st).1, InBox blo bhi a.pos

/-- only sweeps write the best agent (true of every optimiser but BHA, whose exchange with the black hole is a rule of
    the abstract machine) -/
structure BestKept (o : TaskOracle) : Prop where
  upd : ∀ k st, (o.upd k st).2 = st.2
  hook : ∀ k st, (o.hook k st).2 = st.2
  post : ∀ k st, (o.post k st).2 = st.2

/-- the clip loop projects every position of the declared row count into the box `blo … bhi` -/
def ClipsInto (c : ClipLoop) (lbs ubs blo bhi : List Int) : Prop :=
  ∀ pos : Pos, pos.length = lbs.length → InBox blo bhi (c.runPos lbs ubs pos)

/-- the logs are coherent: every sweep evaluated, in order, the positions the hook call right before it left behind, and
    the objective calls of the sweeps are exactly those arguments with their values -/
def LogInv (o : TaskOracle) (s : TaskSt) : Prop :=
  s.sweepArgs = s.hookOut ∧ s.evals = s.sweepArgs.flatten.map (fun x => (x, o.f x))

/-- `s'` is `s` after a hook call that left the population `X` and the sweep of `X`: what the three logs gain -/
def Swept (o : TaskOracle) (X : List Ag) (s s' : TaskSt) : Prop :=
  s'.evals = s.evals ++ X.map (fun a => (a.pos, o.f a.pos)) ∧
  s'.hookOut = s.hookOut ++ [X.map (·.pos)] ∧
  s'.sweepArgs = s.sweepArgs ++ [X.map (·.pos)]

theorem runTask_first (hg : Good true p.skel = true) (s0 : TaskSt) :
    let s' := p.runTask lbs ubs o s0 0
    Swept o (o.hook s0.k (s0.pop, s0.best)).1 s0 s' ∧ s'.dumps = s0.dumps := by
  rw [runTask_zero, (good_pattern true p.skel hg).1]
  exact ⟨⟨rfl, rfl, rfl⟩, rfl⟩

/-- one more iteration; which oracle steps (`k`, `kh`) and states (`st`, `bst`) the update and the hook saw is forgotten:
    no user needs more than their existence -/
theorem runTask_iter (hg : Good true p.skel = true) (s0 : TaskSt) (n : Nat) :
    let s := p.runTask lbs ubs o s0 n
    let s' := p.runTask lbs ubs o s0 (n + 1)
    ∃ (k : Nat) (st : List Ag × Ag) (kh : Nat) (bst : Ag),
      Swept o (o.hook kh (((o.upd k st).1.map fun a => { a with pos := p.clip.runPos lbs ubs a.pos }), bst)).1 s s' ∧
      s'.dumps = s.dumps ++ [(s'.pop.map record, record s'.best)] := by
  obtain ⟨a, b, hb⟩ := runTask_succ_events p lbs ubs o hg
  rw [hb]
  generalize p.runTask lbs ubs o s0 n = s
  -- the updates but the last lead to `s1`, the post steps to `s5`: neither writes a log
  obtain ⟨l1, l2, l3, l4⟩ := exec_quiet_logs p lbs ubs o (List.replicate a .update)
    (fun _ h => .inl (List.eq_of_mem_replicate h)) s
  generalize p.exec lbs ubs o s (List.replicate a .update) = s1 at l1 l2 l3 l4
  obtain ⟨q1, q2, q3, q4⟩ := exec_quiet_logs p lbs ubs o (List.replicate b .post)
    (fun _ h => .inr (List.eq_of_mem_replicate h))
    (p.execEv lbs ubs o (p.execEv lbs ubs o (p.execEv lbs ubs o (p.execEv lbs ubs o s1 .update) .clipAll) .hook) .sweep)
  generalize p.exec lbs ubs o _ (List.replicate b .post) = s5 at q1 q2 q3 q4
  exact ⟨s1.k, (s1.pop, s1.best), s1.k + 1, (o.upd s1.k (s1.pop, s1.best)).2,
    ⟨q1.trans (by rw [← l1]; rfl), q2.trans (by rw [← l2]; rfl), q3.trans (by rw [← l3]; rfl)⟩,
    congrArg (· ++ [(s5.pop.map record, record s5.best)]) (q4.trans l4)⟩

/-! ### C03: hook first, the sweep evaluates exactly what the hook left, counts -/

theorem Swept.logInv {X : List Ag} {s s' : TaskSt} (h : Swept o X s s') (hi : LogInv o s) : LogInv o s' := by
  obtain ⟨h1, h2, h3⟩ := h
  obtain ⟨ha, hb⟩ := hi
  refine ⟨by rw [h2, h3, ha], ?_⟩
  rw [h1, h3, hb]
  simp [List.map_map, Function.comp_def]

/-- **C03, sweep level.**  For every number of iterations `N`: the hook is called `N + 1` times and every call is followed
    by a sweep that evaluates, in population order, exactly the positions the hook left behind; the history gets `N`
    records; the sweeps' objective calls are those arguments, nothing else. -/
theorem task_logs (hg : Good true p.skel = true) (pop : List Ag) (best : Ag) (N : Nat) :
    let s := p.runTask lbs ubs o (TaskSt.start pop best) N
    LogInv o s ∧ s.hookOut.length = N + 1 ∧ s.sweepArgs.length = N + 1 ∧ s.dumps.length = N := by
  induction N with
  | zero =>
    obtain ⟨e, e4⟩ := runTask_first p lbs ubs o hg (TaskSt.start pop best)
    exact ⟨e.logInv o ⟨rfl, rfl⟩, by rw [e.2.1]; rfl, by rw [e.2.2]; rfl, by rw [e4]; rfl⟩
  | succ n ih =>
    obtain ⟨hi, l1, l2, l3⟩ := ih
    obtain ⟨k, st, kh, bst, e, e4⟩ := runTask_iter p lbs ubs o hg (TaskSt.start pop best) n
    exact ⟨e.logInv o hi, by rw [e.2.1, List.length_append, l1]; rfl, by rw [e.2.2, List.length_append, l2]; rfl,
      by rw [e4, List.length_append, l3]; rfl⟩

/-- with updates, hooks and post steps that keep the size of the population (`n` agents), a task of `N` iterations makes
    exactly `(N + 1) · n` sweep calls of the objective -/
theorem task_sweep_calls (hg : Good true p.skel = true) (pop : List Ag) (best : Ag) (N n : Nat)
    (hn : ∀ k st, (o.hook k st).1.length = n) :
    (p.runTask lbs ubs o (TaskSt.start pop best) N).evals.length = (N + 1) * n := by
  induction N with
  | zero =>
    rw [(runTask_first p lbs ubs o hg (TaskSt.start pop best)).1.1]
    simp [TaskSt.start, hn]
  | succ m ih =>
    obtain ⟨k, st, kh, bst, e, _⟩ := runTask_iter p lbs ubs o hg (TaskSt.start pop best) m
    rw [e.1, List.length_append, ih, List.length_map, hn]
    simp only [Nat.add_mul, Nat.one_mul]

/-! ### C04: one record per iteration, the last one is the final state -/

theorem task_dumps (hg : Good true p.skel = true) (s0 : TaskSt) (N : Nat) :
    (p.runTask lbs ubs o s0 N).dumps = s0.dumps ++ (List.range N).map fun i =>
      ((p.runTask lbs ubs o s0 (i + 1)).pop.map record, record (p.runTask lbs ubs o s0 (i + 1)).best) := by
  induction N with
  | zero => simpa using (runTask_first p lbs ubs o hg s0).2
  | succ n ih =>
    obtain ⟨k, st, kh, bst, _, e4⟩ := runTask_iter p lbs ubs o hg s0 n
    rw [e4, ih, List.range_succ, List.map_append, List.append_assoc]; rfl

/-- **C04, record level.**  After `N + 1` iterations the last record handed to `History.dump` is the population and the
    best agent as the task leaves them (position and fitness, population order). -/
theorem task_last_dump (hg : Good true p.skel = true) (s0 : TaskSt) (N : Nat) :
    let s := p.runTask lbs ubs o s0 (N + 1)
    s.dumps.getLast? = some (s.pop.map record, record s.best) := by
  show (p.runTask lbs ubs o s0 (N + 1)).dumps.getLast? = _
  rw [task_dumps p lbs ubs o hg s0 (N + 1), List.range_succ]; simp

/-- **C04, append-only.**  Later iterations add one record each and leave every earlier record as it was: the records of
    `N` iterations are the first `N` records of `M ≥ N` iterations. -/
theorem task_dumps_prefix (hg : Good true p.skel = true) (s0 : TaskSt) (N M : Nat) (h : N ≤ M) :
    ∃ rest, (p.runTask lbs ubs o s0 M).dumps = (p.runTask lbs ubs o s0 N).dumps ++ rest ∧ rest.length = M - N := by
  obtain ⟨d, rfl⟩ := Nat.exists_eq_add_of_le h
  rw [task_dumps p lbs ubs o hg s0 (N + d), task_dumps p lbs ubs o hg s0 N, List.range_add, List.map_append,
    ← List.append_assoc]
  exact ⟨_, rfl, by simp⟩

/-! ### C01: every sweep evaluates inside the box -/

/-- **C01, sweep level.**  If the skeleton is good, the space-wide clip projects into the box, updates keep the declared
    row count and the user's hook keeps a feasible population feasible, then — for every objective, every update arithmetic,
    every number of iterations — every position a sweep hands to the objective lies in the box. -/
theorem task_evals_inBox (hg : Good true p.skel = true) (blo bhi : List Int)
    (hc : ClipsInto p.clip lbs ubs blo bhi) (ho : OracleOK lbs.length blo bhi o)
    (pop : List Ag) (best : Ag) (h0 : ∀ a ∈ pop, InBox blo bhi a.pos) (N : Nat) :
    ∀ e ∈ (p.runTask lbs ubs o (TaskSt.start pop best) N).evals, InBox blo bhi e.1 := by
  induction N with
  | zero =>
    rw [(runTask_first p lbs ubs o hg (TaskSt.start pop best)).1.1]
    exact List.forall_mem_map.mpr (ho.hookBox _ _ h0)
  | succ n ih =>
    obtain ⟨k, st, kh, bst, e1, _⟩ := runTask_iter p lbs ubs o hg (TaskSt.start pop best) n
    rw [e1.1]
    exact List.forall_mem_append.mpr ⟨ih, List.forall_mem_map.mpr
      (ho.hookBox _ _ (List.forall_mem_map.mpr fun z hz => hc z.pos (ho.updRows k st z hz)))⟩

end

/-! ### C02: the best agent is the best point the sweeps evaluated -/

/-- the loop body of the sweep is the machine's sweep rule (`sweepAgent`, `takes`, `bestOf`) for some tie flag; the rule reads
    nothing of a configuration but `swarm`, hence the arbitrary `fmax := 0` -/
def IsRule (l : SweepLoop) (swarm : Bool) : Prop :=
  ∃ tie, ∀ (lbs ubs : List Int) (tp : Pos) (v : Int) (fresh : Nat) (a best : Ag),
    l.body lbs ubs tp v fresh a best =
      (sweepAgent ⟨0, swarm, lbs, ubs⟩ a v,
       if takes best (sweepAgent ⟨0, swarm, lbs, ubs⟩ a v) tie then bestOf (sweepAgent ⟨0, swarm, lbs, ubs⟩ a v) fresh else best)

theorem sweepPop_best (l : SweepLoop) (swarm : Bool) (hr : IsRule l swarm) (lbs ubs : List Int) (f : Pos → Int)
    (pop : List Ag) (best : Ag) (fresh : Nat) :
    (sweepPop l lbs ubs f pop best fresh).2.fit ≤ best.fit ∧
    ∀ a ∈ pop, (sweepPop l lbs ubs f pop best fresh).2.fit ≤ f a.pos := by
  obtain ⟨tie, hr⟩ := hr
  induction pop generalizing best fresh with
  | nil => exact ⟨Int.le_refl _, List.forall_mem_nil _⟩
  | cons a as ih =>
    simp only [sweepPop, hr]
    obtain ⟨r1, r2⟩ := rule_best best (sweepAgent ⟨0, swarm, lbs, ubs⟩ a (f a.pos)) tie fresh
    obtain ⟨i1, i2⟩ := ih (if takes best (sweepAgent ⟨0, swarm, lbs, ubs⟩ a (f a.pos)) tie
      then bestOf (sweepAgent ⟨0, swarm, lbs, ubs⟩ a (f a.pos)) fresh else best) (fresh + 1)
    exact ⟨Int.le_trans i1 r1,
      List.forall_mem_cons.mpr ⟨Int.le_trans i1 (Int.le_trans r2 (sweepAgent_fit_le_val _ _ _)), i2⟩⟩

theorem sweepPop_best_from (l : SweepLoop) (hr : IsRule l false) (lbs ubs : List Int) (f : Pos → Int)
    (pop : List Ag) (best : Ag) (fresh : Nat) :
    (sweepPop l lbs ubs f pop best fresh).2 = best ∨
    ∃ a ∈ pop, (sweepPop l lbs ubs f pop best fresh).2.pos = a.pos ∧ (sweepPop l lbs ubs f pop best fresh).2.fit = f a.pos := by
  obtain ⟨tie, hr⟩ := hr
  induction pop generalizing best fresh with
  | nil => exact .inl rfl
  | cons a as ih =>
    simp only [sweepPop, hr]
    rcases ih (if takes best (sweepAgent ⟨0, false, lbs, ubs⟩ a (f a.pos)) tie
      then bestOf (sweepAgent ⟨0, false, lbs, ubs⟩ a (f a.pos)) fresh else best) (fresh + 1) with h | ⟨x, hx, h1, h2⟩
    · rw [h]
      split
      · exact .inr ⟨a, List.mem_cons_self, rfl, rfl⟩
      · exact .inl rfl
    · exact .inr ⟨x, List.mem_cons_of_mem _ hx, h1, h2⟩

theorem sweepPop_pop (l : SweepLoop) (swarm : Bool) (hr : IsRule l swarm) (lbs ubs : List Int) (f : Pos → Int)
    (pop : List Ag) (best : Ag) (fresh : Nat) :
    (sweepPop l lbs ubs f pop best fresh).1 = pop.map (fun a => sweepAgent ⟨0, swarm, lbs, ubs⟩ a (f a.pos)) := by
  obtain ⟨tie, hr⟩ := hr
  induction pop generalizing best fresh with
  | nil => rfl
  | cons a as ih => simp only [sweepPop, hr, List.map_cons]; rw [ih]

theorem sweepPop_pop_generic (l : SweepLoop) (hr : IsRule l false) (lbs ubs : List Int) (f : Pos → Int)
    (pop : List Ag) (best : Ag) (fresh : Nat) :
    (sweepPop l lbs ubs f pop best fresh).1 = pop.map (fun a => { a with fit := f a.pos, tpos := a.pos }) :=
  sweepPop_pop l false hr lbs ubs f pop best fresh

theorem sweepPop_covers (l : SweepLoop) (hr : IsRule l false) (lbs ubs : List Int) (f : Pos → Int)
    (pop : List Ag) (best : Ag) (fresh : Nat) :
    ∀ x ∈ (sweepPop l lbs ubs f pop best fresh).1, (sweepPop l lbs ubs f pop best fresh).2.fit ≤ x.fit := by
  rw [sweepPop_pop_generic l hr]
  exact List.forall_mem_map.mpr (sweepPop_best l false hr lbs ubs f pop best fresh).2

theorem record_fits (pop : List Ag) : (pop.map record).map (·.2) = pop.map (·.fit) := by
  rw [List.map_map]; rfl

section
variable (p : TaskProg) (lbs ubs : List Int) (o : TaskOracle)

/-- the best agent's fitness is a lower bound of every value a sweep has seen and of every recorded best fitness, and the
    recorded best fitnesses never increase -/
def BestInv (s : TaskSt) : Prop :=
  (∀ e ∈ s.evals, s.best.fit ≤ e.2) ∧ (∀ d ∈ s.dumps, s.best.fit ≤ d.2.2) ∧
  (s.dumps.map (fun d => d.2.2)).Pairwise (· ≥ ·)

theorem bestInv_iff (s : TaskSt) :
    BestInv s ↔ (∀ e ∈ s.evals, s.best.fit ≤ e.2) ∧ Chain (· ≤ ·) (fun d => d.2.2) s.best.fit s.dumps := by
  simp only [BestInv, Chain, List.pairwise_map, ge_iff_le]

theorem bestInv_execEv (swarm : Bool) (hr : IsRule p.sweep swarm) (hk : BestKept o) (ev : SEv) (s : TaskSt)
    (h : BestInv s) : BestInv (p.execEv lbs ubs o s ev) := by
  rw [bestInv_iff] at h ⊢
  obtain ⟨h1, hc⟩ := h
  cases ev with
  | update => simp only [TaskProg.execEv, hk.upd]; exact ⟨h1, hc⟩
  | hook => simp only [TaskProg.execEv, hk.hook]; exact ⟨h1, hc⟩
  | post => simp only [TaskProg.execEv, hk.post]; exact ⟨h1, hc⟩
  | clipAll => exact ⟨h1, hc⟩
  | sweep =>
    obtain ⟨b1, b2⟩ := sweepPop_best p.sweep swarm hr lbs ubs o.f s.pop s.best s.fresh
    exact ⟨List.forall_mem_append.mpr ⟨fun e he => Int.le_trans b1 (h1 e he), List.forall_mem_map.mpr b2⟩,
      hc.mono Int.le_trans b1⟩
  | dump => exact ⟨h1, hc.push Int.le_refl _ rfl⟩

/-- **C02, sweep level.**  Whatever the skeleton, the objective and the oracles that leave the best agent alone: at every
    moment of a task the best agent's fitness is at most every value any sweep has obtained so far and at most every best
    fitness recorded so far, and the recorded best fitnesses are non-increasing. -/
theorem task_best (swarm : Bool) (hr : IsRule p.sweep swarm) (hk : BestKept o) (pop : List Ag) (best : Ag) (N : Nat) :
    BestInv (p.runTask lbs ubs o (TaskSt.start pop best) N) :=
  exec_inv p lbs ubs o BestInv _ (fun ev _ => bestInv_execEv p lbs ubs o swarm hr hk ev) _
    ⟨List.forall_mem_nil _, List.forall_mem_nil _, List.Pairwise.nil⟩

/-- the best agent is the one the task started with, or a pair some sweep evaluated -/
def BestFrom (best0 : Ag) (s : TaskSt) : Prop :=
  s.best = best0 ∨ (s.best.pos, s.best.fit) ∈ s.evals

theorem execEv_evals (s : TaskSt) (ev : SEv) : ∃ new, (p.execEv lbs ubs o s ev).evals = s.evals ++ new := by
  cases ev
  case sweep => exact ⟨_, rfl⟩
  all_goals exact ⟨[], (List.append_nil _).symm⟩

theorem execEv_best (hr : IsRule p.sweep false) (hk : BestKept o) (s : TaskSt) (ev : SEv) :
    (p.execEv lbs ubs o s ev).best = s.best ∨
    ((p.execEv lbs ubs o s ev).best.pos, (p.execEv lbs ubs o s ev).best.fit) ∈ (p.execEv lbs ubs o s ev).evals := by
  cases ev with
  | update => exact Or.inl (hk.upd _ _)
  | hook => exact Or.inl (hk.hook _ _)
  | post => exact Or.inl (hk.post _ _)
  | clipAll => exact Or.inl rfl
  | dump => exact Or.inl rfl
  | sweep =>
    refine (sweepPop_best_from p.sweep hr lbs ubs o.f s.pop s.best s.fresh).imp id fun ⟨x, hx, h1, h2⟩ => ?_
    simp only [TaskProg.execEv]
    rw [h1, h2]
    exact List.mem_append_right _ (List.mem_map.mpr ⟨x, hx, rfl⟩)

theorem bestFrom_execEv (hr : IsRule p.sweep false) (hk : BestKept o) (best0 : Ag) (ev : SEv) (s : TaskSt)
    (h : BestFrom best0 s) : BestFrom best0 (p.execEv lbs ubs o s ev) := by
  obtain ⟨new, hn⟩ := execEv_evals p lbs ubs o s ev
  rcases execEv_best p lbs ubs o hr hk s ev with hb | hb
  · rw [BestFrom, hb, hn]
    exact h.imp id (List.mem_append_left _)
  · exact Or.inr hb

/-- **C02 / C01, best agent.**  Outside the swarm family: the best agent a task reports is the agent it was handed, or its
    (position, fitness) is an objective call some sweep made — so, with `task_evals_inBox`, its position is feasible. -/
theorem task_best_evaluated (hr : IsRule p.sweep false) (hk : BestKept o) (pop : List Ag) (best : Ag) (N : Nat) :
    BestFrom best (p.runTask lbs ubs o (TaskSt.start pop best) N) :=
  exec_inv p lbs ubs o (BestFrom best) _ (fun ev _ => bestFrom_execEv p lbs ubs o hr hk best ev) _ (Or.inl rfl)

theorem task_best_inBox (hg : Good true p.skel = true) (blo bhi : List Int)
    (hc : ClipsInto p.clip lbs ubs blo bhi) (ho : OracleOK lbs.length blo bhi o)
    (hr : IsRule p.sweep false) (hk : BestKept o)
    (pop : List Ag) (best : Ag) (h0 : ∀ a ∈ pop, InBox blo bhi a.pos) (N : Nat) :
    (p.runTask lbs ubs o (TaskSt.start pop best) N).best = best ∨
    InBox blo bhi (p.runTask lbs ubs o (TaskSt.start pop best) N).best.pos :=
  (task_best_evaluated p lbs ubs o hr hk pop best N).imp id
    (task_evals_inBox p lbs ubs o hg blo bhi hc ho pop best h0 N _)

/-- **C02 in full (generic sweep).**  If the objective stays strictly below the incumbent's sentinel fitness (`FLOAT_MAX`: the
    excluded point is the recorded finding K6) and the first hook leaves a non-empty population, then at every moment from the
    first sweep on the reported best is one of the evaluated pairs and its fitness is at most every value any sweep obtained:
    it is the minimum, attained. -/
theorem task_best_is_min (hg : Good true p.skel = true) (hr : IsRule p.sweep false) (hk : BestKept o)
    (pop : List Ag) (best : Ag) (hlt : ∀ x, o.f x < best.fit) (hne : (o.hook 0 (pop, best)).1 ≠ []) (N : Nat) :
    let s := p.runTask lbs ubs o (TaskSt.start pop best) N
    (s.best.pos, s.best.fit) ∈ s.evals ∧ ∀ e ∈ s.evals, s.best.fit ≤ e.2 := by
  have hb := (task_best p lbs ubs o false hr hk pop best N).1
  refine ⟨(task_best_evaluated p lbs ubs o hr hk pop best N).resolve_left fun h => ?_, hb⟩
  -- the sentinel is not the best agent any more: the first sweep evaluated somebody, and every value is below the sentinel
  obtain ⟨x, hx⟩ : ∃ x, (x, o.f x) ∈ (p.runTask lbs ubs o (TaskSt.start pop best) N).evals := by
    refine runTask_inv p lbs ubs o hg (fun s => ∃ x, (x, o.f x) ∈ s.evals) (fun ev s ⟨x, hx⟩ => ?_) _ ?_ N
    · obtain ⟨new, hn⟩ := execEv_evals p lbs ubs o s ev
      exact ⟨x, hn ▸ List.mem_append_left _ hx⟩
    · obtain ⟨a, ha⟩ := List.exists_mem_of_ne_nil _ hne
      exact ⟨a.pos, List.mem_map_of_mem ha⟩
  exact Int.lt_irrefl _ (Int.lt_of_lt_of_le (hlt x) (h ▸ hb _ hx))

end

end Task
end Opy
