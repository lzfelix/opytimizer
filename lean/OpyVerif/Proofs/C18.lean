import OpyVerif.Model.Select
/-!
C18 (order part) — tournament selection, `pairwise`, Bernoulli thresholding, for every fitness
vector (ties, negatives), every drawn round and every uniform stream, over keys.
The arithmetic part (affine maps, Lévy) is in `C18real.lean`.
-/
namespace Opy

theorem minList_eq_min? : ∀ l : List Int, minList l = l.min?
  | [] => rfl
  | x :: xs => by
    rw [minList, minList_eq_min? xs, List.min?_cons]
    cases xs.min? with
    | none => rfl
    | some m => exact congrArg some (Int.min_def x m).symm

theorem firstIdx_eq_idxOf? (v : Int) : ∀ l : List Int, firstIdx v l = l.idxOf? v
  | [] => rfl
  | x :: xs => by simp only [firstIdx, List.idxOf?_cons, firstIdx_eq_idxOf? v xs, beq_iff_eq]

theorem minList_mem (l : List Int) (m : Int) (h : minList l = some m) : m ∈ l ∧ ∀ x ∈ l, m ≤ x :=
  List.min?_eq_some_iff.mp (minList_eq_min? l ▸ h)

theorem minList_some (l : List Int) (h : l ≠ []) : ∃ m, minList l = some m :=
  Option.ne_none_iff_exists'.mp (minList_eq_min? l ▸ mt List.min?_eq_none_iff.mp h)

theorem firstIdx_spec (l : List Int) (v : Int) (i : Nat) (h : firstIdx v l = some i) :
    ∃ h : i < l.length, l[i] = v ∧ ∀ j (hj : j < l.length), j < i → l[j] ≠ v := by
  rw [firstIdx_eq_idxOf?, List.idxOf?, List.findIdx?_eq_some_iff_getElem] at h
  obtain ⟨hi, h1, h2⟩ := h
  exact ⟨hi, beq_iff_eq.mp h1, fun j _ hj e => h2 j hj (beq_iff_eq.mpr e)⟩

theorem firstIdx_some (l : List Int) (v : Int) (h : v ∈ l) : ∃ i, firstIdx v l = some i := by
  apply Option.isSome_iff_exists.mp
  rw [firstIdx_eq_idxOf?, List.idxOf?, List.findIdx?_isSome, List.any_eq_true]
  exact ⟨v, h, beq_self_eq_true v⟩

theorem tournament_cons_eq_some {fit step : List Int} {rest : List (List Int)} {sel : List Nat}
    (h : tournament fit (step :: rest) = some sel) :
    ∃ m i is, minList step = some m ∧ firstIdx m fit = some i ∧ tournament fit rest = some is ∧
      sel = i :: is := by
  rw [tournament] at h
  split at h
  · cases h
  · next m hm =>
    split at h
    · next i is hi hr => exact ⟨m, i, is, hm, hi, hr, (Option.some.inj h).symm⟩
    · cases h

/-- `tournament_selection` returns exactly one index per round -/
theorem tournament_length (fit : List Int) : ∀ (rounds : List (List Int)) (sel : List Nat),
    tournament fit rounds = some sel → sel.length = rounds.length := by
  intro rounds
  induction rounds with
  | nil => intro sel h; cases h; rfl
  | cons step rest ih =>
    intro sel h
    obtain ⟨m, i, is, _, _, hr, rfl⟩ := tournament_cons_eq_some h
    rw [List.length_cons, List.length_cons, ih is hr]

/-- every selected index is valid; its fitness is the minimum of the values drawn for its
    round; and it is the *first* holder of that minimum -/
theorem tournament_spec (fit : List Int) : ∀ (rounds : List (List Int)) (sel : List Nat),
    tournament fit rounds = some sel →
    ∀ k (hk : k < sel.length) (hk' : k < rounds.length),
      ∃ h : sel[k] < fit.length,
        (fit[sel[k]] ∈ rounds[k] ∧ ∀ x ∈ rounds[k], fit[sel[k]] ≤ x) ∧
        ∀ j (hj : j < fit.length), j < sel[k] → fit[j] ≠ fit[sel[k]] := by
  intro rounds
  induction rounds with
  | nil => intro sel h k hk hk'; cases hk'
  | cons step rest ih =>
    intro sel h k hk hk'
    obtain ⟨m, i, is, hm, hi, hr, rfl⟩ := tournament_cons_eq_some h
    cases k with
    | zero =>
      obtain ⟨h1, h2, h3⟩ := firstIdx_spec fit m i hi
      exact ⟨h1, h2 ▸ minList_mem step m hm, fun j hj hji => h2 ▸ h3 j hj hji⟩
    | succ k => exact ih is hr k (Nat.lt_of_succ_lt_succ hk) (Nat.lt_of_succ_lt_succ hk')

/-- the selection is total whenever every round is non-empty and draws values of the list
    (which is what `np.random.choice(fitness)` returns) -/
theorem tournament_total (fit : List Int) (rounds : List (List Int))
    (h : ∀ step ∈ rounds, step ≠ [] ∧ ∀ x ∈ step, x ∈ fit) :
    ∃ sel, tournament fit rounds = some sel := by
  induction rounds with
  | nil => exact ⟨[], rfl⟩
  | cons step rest ih =>
    obtain ⟨hne, hmem⟩ := h step (by simp)
    obtain ⟨m, hm⟩ := minList_some step hne
    obtain ⟨i, hi⟩ := firstIdx_some fit m (hmem m (minList_mem step m hm).1)
    obtain ⟨is, his⟩ := ih (fun s hs => h s (by simp [hs]))
    exact ⟨i :: is, by simp [tournament, hm, hi, his]⟩

theorem pairwise_join {α : Type} : ∀ (l : List α), (pairwise l).flatten = l := by
  intro l
  fun_induction pairwise l with
  | case1 => rfl
  | case2 => rfl
  | case3 x y rest ih => rw [List.flatten_cons, ih]; rfl

/-- every chunk but possibly the last is a pair; the last one is a singleton exactly when the
    length is odd -/
theorem pairwise_chunks {α : Type} : ∀ (l : List α),
    (∀ c ∈ pairwise l, c.length = 2 ∨ c.length = 1) ∧
    (l.length % 2 = 0 → ∀ c ∈ pairwise l, c.length = 2) ∧
    (pairwise l).length = (l.length + 1) / 2 := by
  intro l
  fun_induction pairwise l with
  | case1 => exact ⟨nofun, fun _ => nofun, show 0 = (0 + 1) / 2 by decide⟩
  | case2 x =>
    exact ⟨List.forall_mem_singleton.2 (.inr rfl), nofun, show 1 = (1 + 1) / 2 by decide⟩
  | case3 x y rest ih =>
    obtain ⟨h1, h2, h3⟩ := ih
    refine ⟨List.forall_mem_cons.2 ⟨.inl rfl, h1⟩, fun hev => List.forall_mem_cons.2 ⟨rfl, h2 ?_⟩, ?_⟩
    · -- two elements fewer: the same parity
      exact (Nat.add_mod_right rest.length 2).symm.trans hev
    · -- one chunk more for two elements more
      exact (congrArg (· + 1) h3).trans (Nat.add_div_right (rest.length + 1) (by decide)).symm

/-- chunk `k` is the pair of consecutive elements `2k, 2k+1` -/
theorem pairwise_get {α : Type} : ∀ (l : List α) (k : Nat) (h : 2 * k + 1 < l.length),
    (pairwise l)[k]? = some [l[2 * k]'(by omega), l[2 * k + 1]] := by
  intro l
  fun_induction pairwise l with
  | case1 => intro k h; exact absurd h (Nat.not_lt_zero _)
  | case2 x => intro k h; exact absurd (Nat.lt_of_succ_lt_succ h) (Nat.not_lt_zero _)
  | case3 x y rest ih =>
    intro k h
    cases k with
    | zero => rfl
    | succ k =>
      rw [List.getElem?_cons_succ, ih k (Nat.lt_of_succ_lt_succ (Nat.lt_of_succ_lt_succ h))]
      rfl

theorem bernoulli_length (p : Int) (us : List Int) : (bernoulli p us).length = us.length := by
  simp [bernoulli]

theorem bernoulli_forall (p : Int) (us : List Int) (P : Nat → Prop) :
    (∀ b ∈ bernoulli p us, P b) ↔ ∀ u ∈ us, P (if u < p then 1 else 0) :=
  List.forall_mem_map

theorem bernoulli_values (p : Int) (us : List Int) : ∀ b ∈ bernoulli p us, b = 0 ∨ b = 1 :=
  (bernoulli_forall p us _).2 fun u _ => by split <;> simp

theorem bernoulli_mono (p p' : Int) (h : p ≤ p') (us : List Int) (i : Nat) (hi : i < us.length) :
    (bernoulli p us)[i]'(by simpa [bernoulli] using hi) ≤ (bernoulli p' us)[i]'(by simpa [bernoulli] using hi) := by
  simp only [bernoulli, List.getElem_map]
  by_cases h1 : us[i] < p
  · rw [if_pos h1, if_pos (Int.lt_of_lt_of_le h1 h)]; exact Nat.le_refl _
  · rw [if_neg h1]; exact Nat.zero_le _

/-- probability 0 (or anything ≤ every draw; unit draws are ≥ 0): all zeros -/
theorem bernoulli_zero (p : Int) (us : List Int) (h : ∀ u ∈ us, p ≤ u) : ∀ b ∈ bernoulli p us, b = 0 :=
  (bernoulli_forall p us _).2 fun u hu => if_neg (Int.not_lt.mpr (h u hu))

/-- probability 1 (unit draws are < 1): all ones -/
theorem bernoulli_one (p : Int) (us : List Int) (h : ∀ u ∈ us, u < p) : ∀ b ∈ bernoulli p us, b = 1 :=
  (bernoulli_forall p us _).2 fun u hu => if_pos (h u hu)

/-- non-vacuity / tests on literals -/
example : tournament [5, -3, 7, -3] [[7, -3], [5, 5], [7, 5]] = some [1, 0, 0] := by decide +kernel
example : pairwise [1, 2, 3, 4, 5] = [[1, 2], [3, 4], [5]] := by decide +kernel
example : bernoulli 5 [0, 4, 5, 9] = [1, 1, 0, 0] := by decide +kernel

end Opy
