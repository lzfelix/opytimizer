import OpyVerif.Proofs.C04
/-!
C19 — `History.get` returns the recorded series in iteration order, or fails with the
documented error; C04 at run level — one record per iteration for every recorded quantity.

`get records isTuple index` models `History.get(key, index)` on the records of one attribute:
`np.asarray` (shape discovery `shapeOf`), the `ndim - 1 != len(index)` test, the slice
`attr[(slice(None),) + index]` (`atPath` on every record) and `np.hstack`.

* `get_type_error`, `get_size_error`, `get_index_error` : the three failures;
* `get_ok`, `get_ok_all`, `get_series_order`            : success, components in record order;
* `hstack_nums`, `hstack_rows`, `hstack_rows_length`    : what `np.hstack` does to scalars and
  to `(v × d)` positions — `(v × T·d)`, row `i` = concatenation over iterations of row `i`;
* `shapeOf_agents_record`, `shapeOf_best_record`        : `[T, n, 2]` and `[T, 2]`, so valid
  indices have length 2 and 1;
* `dump_series_values`, `dump_series_length`, `dump_series_skipped` : after `N` calls
  `dump(k₁=…, …, k_m=…)` with the same distinct keys, every kept key has exactly the `N`
  values passed for it, in call order; with `store_best_only` the per-agent HISTORY_KEYS have
  no attribute at all.

Core Lean only.
-/
namespace Opy

theorem commonPrefix_nil_right (a : List Nat) : commonPrefix a [] = [] := by cases a <;> rfl

theorem commonPrefix_self : ∀ a : List Nat, commonPrefix a a = a
  | [] => rfl
  | x :: xs => by simp [commonPrefix, commonPrefix_self xs]

theorem shapesCommon_const (s : List Nat) : ∀ (xs : List Rec), xs ≠ [] →
    (∀ x ∈ xs, shapeOf x = s) → shapesCommon xs = s
  | [], h, _ => absurd rfl h
  | [x], _, h => by simp [shapesCommon, h x]
  | x :: y :: rest, _, h => by
    rw [shapesCommon, h x (by simp),
      shapesCommon_const s (y :: rest) (by simp) (fun z hz => h z (by simp [hz])), commonPrefix_self]

theorem shapeOf_list_const (s : List Nat) (rs : List Rec) (hne : rs ≠ []) (h : ∀ r ∈ rs, shapeOf r = s) :
    shapeOf (.list rs) = rs.length :: s := by
  rw [shapeOf, shapesCommon_const s rs hne h]

/-- `(position, fitness)`: ragged below the pair level whatever the position is -/
theorem shapeOf_pair (pos : Rec) (fit : Int) : shapeOf (.list [pos, .num fit]) = [2] := by
  simp [shapeOf, shapesCommon, commonPrefix_nil_right]

/-- a position as `.tolist()` produces it: `v` rows of `d` numbers -/
def mkPosRec (p : List (List Int)) : Rec := .list (p.map fun row => .list (row.map .num))

/-- one `agents` record as `_parse` produces it: `[(position, fit) for v in agents]` -/
def mkAgentsRec (ags : List (List (List Int) × Int)) : Rec :=
  .list (ags.map fun a => .list [mkPosRec a.1, .num a.2])

/-- one `best_agent` record: `(position, fit)` -/
def mkBestRec (a : List (List Int) × Int) : Rec := .list [mkPosRec a.1, .num a.2]

theorem flatMap_items_nums (ns : List Int) : (ns.map Rec.num).flatMap Rec.items = ns.map Rec.num := by
  rw [List.flatMap_map, List.map_eq_flatMap]; rfl

/-- witness: two iterations × two agents × `((1 × 2) position, fit)` -/
def c19Recs : List Rec :=
  [mkAgentsRec [([[1, 2]], 10), ([[3, 4]], 20)], mkAgentsRec [([[5, 6]], 30), ([[7, 8]], 40)]]

/-- a non-tuple index raises `TypeError` whatever the records are -/
theorem get_type_error (rs : List Rec) (idx : List Nat) : get rs false idx = .error .typeError := by
  simp [get]

/-- an index whose length is not `ndim - 1` raises `SizeError` -/
theorem get_size_error (rs : List Rec) (idx : List Nat)
    (h : (shapeOf (.list rs)).length - 1 ≠ idx.length) : get rs true idx = .error .sizeError := by
  simp [get, h]

/-- a right-sized index that leaves some record (out of range, or through a non-list) is the
    model's `indexError` -/
theorem get_index_error (rs : List Rec) (idx : List Nat)
    (hsz : (shapeOf (.list rs)).length - 1 = idx.length)
    (hbad : ∃ r ∈ rs, atPath r idx = none) : get rs true idx = .error .indexError := by
  simp [get, hsz, mapM_eq_none_of_mem _ rs hbad]

/-- sizes match and record `i` has component `parts[i]` at `idx` (for every `i`, in order):
    the answer is `np.hstack` of exactly these components, in record order -/
theorem get_ok (rs parts : List Rec) (idx : List Nat)
    (hsz : (shapeOf (.list rs)).length - 1 = idx.length)
    (hp : rs.map (fun r => atPath r idx) = parts.map some) :
    get rs true idx = .ok (hstack parts) := by
  simp [get, hsz, mapM_eq_some_of_map _ rs parts hp]

/-- the same with the hypothesis "every `atPath r idx` is `some`": one component per record -/
theorem get_ok_all (rs : List Rec) (idx : List Nat)
    (hsz : (shapeOf (.list rs)).length - 1 = idx.length)
    (hall : ∀ r ∈ rs, (atPath r idx).isSome = true) :
    get rs true idx = .ok (hstack (rs.filterMap fun r => atPath r idx)) ∧
    (rs.filterMap fun r => atPath r idx).length = rs.length := by
  obtain ⟨h1, h2⟩ := map_eq_filterMap_of_isSome (fun r => atPath r idx) rs hall
  exact ⟨get_ok rs _ idx hsz h1, h2⟩

/-- `np.hstack` of scalars is the list of these scalars, in order -/
theorem hstack_nums (ns : List Int) : hstack (ns.map .num) = .list (ns.map .num) := by
  cases ns with
  | nil => rfl
  | cons n ns => exact congrArg Rec.list (flatMap_items_nums (n :: ns))

/-- **iteration order**: when the component of record `i` is the number `ns[i]`, the result
    is the series `ns`, oldest iteration first -/
theorem get_series_order (rs : List Rec) (ns : List Int) (idx : List Nat)
    (hsz : (shapeOf (.list rs)).length - 1 = idx.length)
    (hp : rs.map (fun r => atPath r idx) = ns.map (fun n => some (.num n))) :
    get rs true idx = .ok (.list (ns.map .num)) := by
  rw [get_ok rs (ns.map .num) idx hsz (by rw [hp, List.map_map]; rfl), hstack_nums]

theorem hstack_matrix (row : List Rec) (tl : List Rec) (ps : List Rec) :
    hstack (.list (.list row :: tl) :: ps) =
      .list ((List.range (tl.length + 1)).map fun i =>
        .list ((Rec.list (.list row :: tl) :: ps).flatMap fun q =>
          match q.items[i]? with | some r => r.items | none => [])) := rfl

theorem matrix_row (M : List (List Rec)) (i : Nat) :
    (match (Rec.list (M.map .list)).items[i]? with | some r => r.items | none => []) = M[i]?.getD [] := by
  rw [Rec.items, List.getElem?_map]; cases M[i]? <;> rfl

/-- `np.hstack` of 2-D parts with `m ≥ 1` rows each: row `i` of the result is the
    concatenation, over the parts in order, of their row `i` -/
theorem hstack_rows (mats : List (List (List Rec))) (m : Nat) (hm : 0 < m) (hne : mats ≠ [])
    (hrows : ∀ M ∈ mats, M.length = m) :
    hstack (mats.map fun M => .list (M.map .list)) =
      .list ((List.range m).map fun i => .list (mats.flatMap fun M => M[i]?.getD [])) := by
  obtain ⟨M0, rest, rfl⟩ := List.exists_cons_of_ne_nil hne
  have h0 : M0.length = m := hrows M0 List.mem_cons_self
  obtain ⟨row0, M0', rfl⟩ := List.exists_cons_of_length_pos (h0 ▸ hm)
  -- `hstack_matrix` wants the first part as a cons; afterwards it is folded back so that `matrix_row` fits every part
  rw [List.map_cons, List.map_cons, hstack_matrix, List.length_map, ← List.length_cons (a := row0), h0,
    ← List.map_cons (f := Rec.list)]
  simp only [List.flatMap_cons, List.flatMap_map, matrix_row]

/-- … hence `T` positions of shape `(v × d)` give `(v × T·d)` -/
theorem hstack_rows_length (mats : List (List (List Rec))) (m d : Nat)
    (hrows : ∀ M ∈ mats, M.length = m) (hcols : ∀ M ∈ mats, ∀ row ∈ M, row.length = d)
    (i : Nat) (hi : i < m) : (mats.flatMap fun M => M[i]?.getD []).length = mats.length * d := by
  apply length_flatMap_const
  intro M hM
  have : i < M.length := by rw [hrows M hM]; exact hi
  simp only [List.getElem?_eq_getElem this, Option.getD_some]
  exact hcols M hM _ (List.getElem_mem _)

/-- `best_agent`: `T ≥ 1` × `(position, fit)` has shape `[T, 2]`: a valid index has length 1 -/
theorem shapeOf_best_record (rs : List Rec) (T : Nat) (hT : 0 < T) (hlen : rs.length = T)
    (h : ∀ r ∈ rs, ∃ (pos : Rec) (fit : Int), r = .list [pos, .num fit]) :
    shapeOf (.list rs) = [T, 2] := by
  rw [shapeOf_list_const [2] rs (List.ne_nil_of_length_pos (hlen ▸ hT)), hlen]
  intro r hr
  obtain ⟨pos, fit, rfl⟩ := h r hr
  exact shapeOf_pair pos fit

/-- `agents`: `T ≥ 1` iterations × `n ≥ 1` agents × `(position, fit)` has shape `[T, n, 2]`
    (the position, being a nested list next to a number, stays an object): a valid index has
    length 2 — `(agent, 0)` for positions, `(agent, 1)` for fitnesses -/
theorem shapeOf_agents_record (rs : List Rec) (T n : Nat) (hT : 0 < T) (hn : 0 < n)
    (hlen : rs.length = T)
    (h : ∀ r ∈ rs, ∃ ags : List Rec, r = .list ags ∧ ags.length = n ∧
          ∀ a ∈ ags, ∃ (pos : Rec) (fit : Int), a = .list [pos, .num fit]) :
    shapeOf (.list rs) = [T, n, 2] := by
  rw [shapeOf_list_const [n, 2] rs (List.ne_nil_of_length_pos (hlen ▸ hT)), hlen]
  intro r hr
  obtain ⟨ags, rfl, hl, ha⟩ := h r hr
  exact shapeOf_best_record ags n hn hl ha

/-- the same for records built the way `_parse` builds them -/
theorem shapeOf_mkAgentsRec (its : List (List (List (List Int) × Int))) (n : Nat) (hn : 0 < n)
    (hT : its ≠ []) (hlen : ∀ ags ∈ its, ags.length = n) :
    shapeOf (.list (its.map mkAgentsRec)) = [its.length, n, 2] := by
  apply shapeOf_agents_record _ _ _ (List.length_pos_iff.mpr hT) hn (by simp)
  exact List.forall_mem_map.mpr fun ags hags =>
    ⟨_, rfl, by simpa using hlen ags hags, List.forall_mem_map.mpr fun a _ => ⟨_, _, rfl⟩⟩

theorem shapeOf_mkBestRec (its : List (List (List Int) × Int)) (hT : its ≠ []) :
    shapeOf (.list (its.map mkBestRec)) = [its.length, 2] := by
  apply shapeOf_best_record _ _ (List.length_pos_iff.mpr hT) (by simp)
  exact List.forall_mem_map.mpr fun a _ => ⟨_, _, rfl⟩

/-- end to end: the fitness series of the best agent, in iteration order -/
theorem get_best_fitness_series (its : List (List (List Int) × Int)) (hT : its ≠ []) :
    get (its.map mkBestRec) true [1] = .ok (.list (its.map fun a => .num a.2)) := by
  rw [get_series_order (its.map mkBestRec) (its.map (·.2)) [1]
    (by rw [shapeOf_mkBestRec its hT]; rfl) (by rw [List.map_map, List.map_map]; rfl), List.map_map]
  rfl

/-- **values, in call order**: after the calls `calls` (each with pairwise-distinct keys), a
    kept key holds what it held before followed by the values passed for it, call by call -/
theorem dump_series_values (hk : List String) (calls : List (List (String × Rec))) (h0 : Hist)
    (k : String) (hnd : ∀ c ∈ calls, (c.map (·.1)).Nodup)
    (hkeep : ¬ (hk.contains k = true ∧ k ≠ "best_agent" ∧ h0.storeBestOnly = true)) :
    (lookupA (calls.foldl (dump hk) h0).attrs k).getD [] =
      (lookupA h0.attrs k).getD [] ++ calls.flatMap (fun c => (kvLookup c k).toList) := by
  have hs : skips hk h0 k = false := Bool.eq_false_iff.mpr (mt (skips_iff hk h0 k).mp hkeep)
  rw [foldl_dump, series_dump_kept hk _ h0 k hs, passed_flatten]
  congr 1
  exact flatMap_congr' fun c hc => passed_of_nodup c k (hnd c hc)

/-- **exactly one record per iteration**: `N` successive `dump` calls, each with the same
    pairwise-distinct keys `ks`, from a history holding none of them: every kept key has exactly
    `N` records (and the attribute exists as soon as `N ≥ 1`) -/
theorem dump_series_length (hk ks : List String) (calls : List (List (String × Rec))) (h0 : Hist)
    (hnd : ks.Nodup) (hkeys : ∀ c ∈ calls, c.map (·.1) = ks)
    (hfresh : ∀ k ∈ ks, lookupA h0.attrs k = none)
    (k : String) (hmem : k ∈ ks)
    (hkeep : ¬ (hk.contains k = true ∧ k ≠ "best_agent" ∧ h0.storeBestOnly = true)) :
    ((lookupA (calls.foldl (dump hk) h0).attrs k).getD []).length = calls.length ∧
    (0 < calls.length → ∃ l, lookupA (calls.foldl (dump hk) h0).attrs k = some l ∧
      l.length = calls.length) := by
  have hlen : ((lookupA (calls.foldl (dump hk) h0).attrs k).getD []).length = calls.length := by
    rw [dump_series_values hk calls h0 k (fun c hc => hkeys c hc ▸ hnd) hkeep, hfresh k hmem,
      Option.getD_none, List.nil_append, length_flatMap_const _ 1 calls, Nat.mul_one]
    intro c hc
    obtain ⟨v, hv⟩ := kvLookup_isSome_of_mem c k (hkeys c hc ▸ hmem)
    rw [hv]; rfl
  refine ⟨hlen, fun hpos => ?_⟩
  cases hl : lookupA (calls.foldl (dump hk) h0).attrs k with
  | none => rw [hl] at hlen; exact absurd hpos (hlen ▸ Nat.lt_irrefl 0)
  | some l => rw [hl] at hlen; exact ⟨l, rfl, hlen⟩

/-- **nothing per-agent under `store_best_only`**: a skipped key has no attribute at all -/
theorem dump_series_skipped (hk : List String) (calls : List (List (String × Rec))) (h0 : Hist)
    (k : String) (hfresh : lookupA h0.attrs k = none)
    (hskip : hk.contains k = true ∧ k ≠ "best_agent" ∧ h0.storeBestOnly = true) :
    lookupA (calls.foldl (dump hk) h0).attrs k = none := by
  rw [foldl_dump, lookupA_dump_skipped hk _ h0 k ((skips_iff hk h0 k).mpr hskip), hfresh]

/-- **save / load**: a series that was saved is read back identically after `load`, so `get`
    answers the same on the loaded history as on the saved one (with `load_after_save`, C04,
    a fresh target has exactly the saved attributes) -/
theorem get_after_load (target saved : List (String × List Rec)) (k : String) (isTuple : Bool)
    (idx : List Nat) (h : (saved.any (fun s => decide (s.1 = k))) = true) :
    get ((lookupA (loadInto target saved) k).getD []) isTuple idx =
      get ((lookupA saved k).getD []) isTuple idx := by
  rw [lookup_loadInto_saved target saved k h]

/-- two iterations, two agents, `(1 × 2)` positions (`c19Recs` above): shape `[2, 2, 2]`;
    the positions of agent 1 over time are stacked row-wise; the fitnesses of agent 0 form the
    series `[10, 30]`; a short index is a `SizeError`, an out-of-range one an index error -/
example : shapeOf (.list c19Recs) = [2, 2, 2] := by decide +kernel
example : (match get c19Recs true [1, 0] with
    | .ok (.list [.list [.num 3, .num 4, .num 7, .num 8]]) => true | _ => false) = true := by decide +kernel
example : (match get c19Recs true [0, 1] with
    | .ok (.list [.num 10, .num 30]) => true | _ => false) = true := by decide +kernel
example : (match get c19Recs true [0] with | .error .sizeError => true | _ => false) = true := by
  decide +kernel
example : (match get c19Recs true [5, 0] with | .error .indexError => true | _ => false) = true := by
  decide +kernel

/-- a run of two iterations with `store_best_only`: only `best_agent` is kept -/
example :
    let h := [[("agents", .num 1), ("best_agent", .num 2)], [("agents", .num 3), ("best_agent", .num 4)]].foldl
      (dump ["agents", "best_agent", "local"]) ⟨true, []⟩
    (match lookupA h.attrs "best_agent" with | some [.num 2, .num 4] => true | _ => false) = true ∧
      (lookupA h.attrs "agents").isNone = true := by
  decide +kernel

#print axioms get_type_error
#print axioms get_size_error
#print axioms get_index_error
#print axioms get_ok
#print axioms get_ok_all
#print axioms hstack_nums
#print axioms get_series_order
#print axioms hstack_rows
#print axioms hstack_rows_length
#print axioms shapeOf_agents_record
#print axioms shapeOf_best_record
#print axioms shapeOf_mkAgentsRec
#print axioms shapeOf_mkBestRec
#print axioms get_best_fitness_series
#print axioms dump_series_values
#print axioms dump_series_length
#print axioms dump_series_skipped
#print axioms get_after_load

end Opy
