import OpyVerif.Proofs.C02
import OpyVerif.Proofs.Lemmas.GreedyLemmas
/-!
C20 — records are truthful; greedy optimisers never accept a worse agent.

*Truthful*: an agent's record `(tpos, fit)` is literally one of the (argument, value) pairs of
the objective-call log.  The machine tracks a flag `truthful` that every dump copies into
`truthLog`; whenever the flag recorded by a dump is `true`, every agent of the dumped
population holds a truthful record.  The sweep re-establishes truth agent by agent (always in
the non-swarm family; in the swarm family whenever the personal best was truthful or is
improved).

*Greedy*: `greedyRun` is the monitor the harness runs on the observed event list of a greedy
optimiser (every population snapshot index-wise no worse than the previous one, the sweep
re-evaluates only unmoved truthful agents or keeps personal bests, no black-hole swap).  Under
it every agent's fitness is non-increasing along the history, and so are the rows of the
fitness log.  The harmony-search variant is about ranks: replacing the worst harmony by a
better one and re-sorting never makes the k-th best worse.
-/
namespace Opy

/-- **C20 (records).** If the truth flag recorded by a dump is `true`, every agent of the
    dumped population holds a pair the objective really returned. -/
theorem C20_records_truthful (cfg : Cfg) (pop : List Ag) (best : Ag)
    (hp : ∀ a ∈ pop, a.fit = cfg.fmax) (hb : best.fit = cfg.fmax)
    (evs : List Ev) (s' : St)
    (h : run cfg (initSt pop best) (evs ++ [.dump]) = some s')
    (hflag : s'.truthLog.getLast? = some true) :
    ∀ a ∈ s'.pop, (a.tpos, a.fit) ∈ s'.evals := by
  obtain ⟨s1, h1, h2⟩ := run_concat.1 h
  obtain ⟨rfl, _⟩ := dump_spec h2
  rw [List.getLast?_concat] at hflag
  exact (inv_reach hp hb h1).truthI (Option.some.inj hflag)

theorem sweep_at_cursor {cfg : Cfg} {s s' : St} {v : Int} {tie : Bool} {r : Nat} {a : Ag}
    (h : apply cfg s (.sweep v tie r) = some s') (ha : s.pop[s.cursor]? = some a) :
    s'.pop[s.cursor]? = some (sweepAgent cfg a v) ∧ s'.evals = s.evals ++ [(a.pos, v)] ∧
    s'.tp = (s.tp && truthB s'.evals (sweepAgent cfg a v)) ∧
    consistentB s.evals a.pos v = true ∧ (cfg.swarm = true ∨ a.tpos = a.pos) := by
  obtain ⟨a0, hai, rfl, hc, _, hsw, _⟩ := sweep_spec h
  cases hai.symm.trans ha
  obtain ⟨hcl, _⟩ := List.getElem?_eq_some_iff.1 ha
  exact ⟨by simp [hcl], rfl, rfl, hc, hsw⟩

/-- the sweep step conjoins the truth of the swept agent's new record to the running flag -/
theorem sweep_tp (cfg : Cfg) (s s' : St) (v : Int) (tie : Bool) (r : Nat)
    (h : apply cfg s (.sweep v tie r) = some s') :
    ∃ a', s'.pop[s.cursor]? = some a' ∧ s'.tp = (s.tp && truthB s'.evals a') := by
  obtain ⟨a, hai, _⟩ := sweep_spec h
  obtain ⟨h1, _, h3, _⟩ := sweep_at_cursor h hai
  exact ⟨_, h1, h3⟩

set_option linter.unusedVariables false in
/-- swarm family: the personal best stays truthful if it was, and becomes truthful when it is
    improved; in both cases the running flag is unchanged.  (Otherwise — an untruthful record
    that is not improved — the flag drops: see the example at the end.)  `hs` is not used: it only marks the family
    the statement is meant for. -/
theorem sweep_swarm_tp (cfg : Cfg) (s s' : St) (v : Int) (tie : Bool) (r : Nat) (a : Ag)
    (hs : cfg.swarm = true) (h : apply cfg s (.sweep v tie r) = some s')
    (ha : s.pop[s.cursor]? = some a) (hcase : v < a.fit ∨ Truth s.evals a) :
    s'.tp = s.tp ∧ ∃ a', s'.pop[s.cursor]? = some a' ∧ truthB s'.evals a' = true := by
  obtain ⟨h1, h2, h3, _⟩ := sweep_at_cursor h ha
  have ht : truthB s'.evals (sweepAgent cfg a v) = true := by
    rw [truthB_iff, h2]
    rcases sweepAgent_truth cfg s.evals a v with h4 | ⟨h4, h5⟩
    · exact h4
    · exact sweepAgent_truth_of_truth cfg s.evals a v (hcase.resolve_left (by omega))
  exact ⟨by rw [h3, ht, Bool.and_true], _, h1, ht⟩

/-- non-swarm family: the swept agent is truthful afterwards, the running flag is unchanged -/
theorem sweep_nonswarm_tp (cfg : Cfg) (s s' : St) (v : Int) (tie : Bool) (r : Nat)
    (hs : cfg.swarm = false) (h : apply cfg s (.sweep v tie r) = some s') :
    s'.tp = s.tp ∧ ∃ a', s'.pop[s.cursor]? = some a' ∧ truthB s'.evals a' = true := by
  obtain ⟨a, hai, _⟩ := sweep_spec h
  obtain ⟨h1, h2, h3, _⟩ := sweep_at_cursor h hai
  have ht : truthB s'.evals (sweepAgent cfg a v) = true := by
    rw [truthB_iff, h2, sweepAgent_nonswarm cfg a v hs]; simp [Truth]
  exact ⟨by rw [h3, ht, Bool.and_true], _, h1, ht⟩

/-- **C20 (determinism guard).** Non-swarm family: re-evaluating an unmoved agent whose record
    is truthful returns the recorded value (the machine rejects anything else). -/
theorem sweep_truthful_same_fit (cfg : Cfg) (s s' : St) (v : Int) (tie : Bool) (r : Nat) (a : Ag)
    (hs : cfg.swarm = false) (h : apply cfg s (.sweep v tie r) = some s')
    (ha : s.pop[s.cursor]? = some a) (hT : Truth s.evals a) :
    (s'.pop[s.cursor]?).map Ag.fit = some a.fit := by
  obtain ⟨h1, _, _, hcons, hsw⟩ := sweep_at_cursor h ha
  have hv := consistent_truth_fit s.evals a v hcons (hsw.resolve_left (by simp [hs])) hT
  simp [h1, sweepAgent_nonswarm cfg a v hs, hv]

/-- swarm family: the sweep never raises a recorded fitness (no hypothesis on the record) -/
theorem sweep_swarm_fit_le (cfg : Cfg) (s s' : St) (v : Int) (tie : Bool) (r : Nat) (a : Ag)
    (hs : cfg.swarm = true) (h : apply cfg s (.sweep v tie r) = some s')
    (ha : s.pop[s.cursor]? = some a) :
    ∃ a', s'.pop[s.cursor]? = some a' ∧ a'.fit ≤ a.fit :=
  ⟨_, (sweep_at_cursor h ha).1, sweepAgent_fit_le cfg a v hs⟩

/-- **C20 (greedy, agents).** Along a history that passes the greedy monitor no agent's
    fitness ever goes up: the final population is index-wise no worse than the initial one
    (same size, population order fixed). -/
theorem greedy_fits_antitone (cfg : Cfg) (s s' : St) (evs : List Ev)
    (hg : greedyRun cfg s evs = true) (h : run cfg s evs = some s') :
    fitsLe s'.pop s.pop = true :=
  (greedy_log cfg evs s s' hg h).1

/-- the same, spelled out index-wise -/
theorem greedy_fits_antitone_idx (cfg : Cfg) (s s' : St) (evs : List Ev)
    (hg : greedyRun cfg s evs = true) (h : run cfg s evs = some s') :
    s'.pop.length = s.pop.length ∧
      ∀ i (h1 : i < s'.pop.length) (h2 : i < s.pop.length), s'.pop[i].fit ≤ s.pop[i].fit :=
  (fitsLe_iff _ _).1 (greedy_fits_antitone cfg s s' evs hg h)

/-- **C20 (greedy, log).** The fitness rows dumped during a history that passes the greedy
    monitor are index-wise non-increasing: every later row has the length of every earlier one
    and is entry-wise `≤` it (pairwise, hence in particular for consecutive rows). -/
theorem C20_greedy_agents (cfg : Cfg) (s s' : St) (evs : List Ev)
    (hg : greedyRun cfg s evs = true) (h : run cfg s evs = some s') :
    (s'.fitLog.drop s.fitLog.length).Pairwise (fun r1 r2 =>
      r2.length = r1.length ∧ ∀ i (h2 : i < r2.length) (h1 : i < r1.length), r2[i] ≤ r1[i]) := by
  obtain ⟨_, rows, hlog, _, hpw, _⟩ := greedy_log cfg evs s s' hg h
  rw [hlog, List.drop_left]
  exact hpw.imp (fun {r1 r2} hr => (rowLeB_iff r2 r1).1 hr)

/-- two-dump version: the row written by the last dump is index-wise `≤` the row written by
    the previous one -/
theorem C20_greedy_two_dumps (cfg : Cfg) (s s' : St) (evs1 evs2 : List Ev)
    (hg : greedyRun cfg s (evs1 ++ [.dump] ++ evs2 ++ [.dump]) = true)
    (h : run cfg s (evs1 ++ [.dump] ++ evs2 ++ [.dump]) = some s') :
    ∃ pre r1 r2, s'.fitLog = pre ++ [r1, r2] ∧ r2.length = r1.length ∧
      ∀ i (h2 : i < r2.length) (h1 : i < r1.length), r2[i] ≤ r1[i] := by
  obtain ⟨_, rows, hlog, hlen, hpw, _⟩ := greedy_log cfg _ s s' hg h
  -- two dumps, so at least two rows; the last two of them are ordered like any two
  have h2 : 2 ≤ rows.length := by
    rw [hlen]
    simp only [List.filter_append, List.length_append, List.filter_cons, List.filter_nil,
      Ev.isDump, if_true, List.length_cons, List.length_nil]
    omega
  obtain ⟨pre, r1, r2, rfl⟩ := exists_eq_append_pair rows h2
  refine ⟨s.fitLog ++ pre, r1, r2, by rw [hlog, List.append_assoc], ?_⟩
  have := List.pairwise_pair.1 (List.pairwise_append.1 hpw).2.1
  exact (rowLeB_iff r2 r1).1 this

/-- **C20 (ranks).** A sorted harmony memory whose worst entry is replaced by a strictly better
    value and re-sorted: still sorted, same size, and the k-th best is no worse for every k. -/
theorem replaceWorst_rank_antitone (v : Int) (l : List Int) (hs : l.Pairwise (· ≤ ·))
    (hne : l ≠ []) (hv : v < l.getLast hne) :
    (insertSorted v l.dropLast).Pairwise (· ≤ ·) ∧
    (insertSorted v l.dropLast).length = l.length ∧
    ∀ i (h1 : i < (insertSorted v l.dropLast).length) (h2 : i < l.length),
      (insertSorted v l.dropLast)[i] ≤ l[i] := by
  have hl := List.dropLast_concat_getLast hne
  have hs' : (l.dropLast ++ [l.getLast hne]).Pairwise (· ≤ ·) := by rw [hl]; exact hs
  have hle := insertSorted_rowLe v (l.getLast hne) (by omega) l.dropLast hs'
  rw [hl, rowLeB_iff] at hle
  refine ⟨insertSorted_sorted v _ (List.pairwise_append.1 hs').1, hle.1, hle.2⟩

theorem replaceWorst_noop (v : Int) (l : List Int) (hne : l ≠ []) (hv : ¬ v < l.getLast hne) :
    replaceWorst v l = l := by
  rw [replaceWorst_eq v hne, if_neg hv]

/-- both cases together, for the memory update as harmony search performs it -/
theorem replaceWorst_antitone (v : Int) (l : List Int) (hs : l.Pairwise (· ≤ ·)) :
    (replaceWorst v l).Pairwise (· ≤ ·) ∧ (replaceWorst v l).length = l.length ∧
    ∀ i (h1 : i < (replaceWorst v l).length) (h2 : i < l.length), (replaceWorst v l)[i] ≤ l[i] := by
  by_cases hne : l = []
  · subst hne; simp [replaceWorst]
  · by_cases hv : v < l.getLast hne
    · rw [replaceWorst_eq v hne, if_pos hv]
      exact replaceWorst_rank_antitone v l hs hne hv
    · rw [replaceWorst_noop v l hne hv]
      exact ⟨hs, rfl, fun i _ _ => Int.le_refl _⟩

/-- first iteration of the C02 demo (hook, sweep, dump) … -/
def c20Pre : List Ev := [.hook demoPop, .sweep 10 false 3, .sweep 4 false 4, .dump]
def c20Pop2 : List Ag :=
  [{ pos := [[2]], tpos := [[2]], fit := 3, ref := 1 }, { pos := [[5]], tpos := [[5]], fit := 4, ref := 2 }]
/-- … and a greedy second iteration: an accepted trial, clip, hook, re-evaluation, dump -/
def c20Greedy : List Ev :=
  [.trial [[2]] 3 c20Pop2, .clipAll, .hook c20Pop2, .sweep 3 false 5, .sweep 4 false 6, .dump]
def c20Swarm : Cfg := { fmax := 100, swarm := true, lbs := [0], ubs := [9] }

/-- the C02 demo history ends with a dump whose truth flag is `true` -/
example : ((run demoCfg (initSt demoPop demoBest) demoEvs).map (fun s => s.truthLog.getLast?))
    = some (some true) := by decide +kernel

/-- first iteration, then a greedy second iteration (accepted trial, clip, hook, re-evaluation
    of truthful unmoved agents, dump): accepted by the machine and by the monitor; the two
    dumped rows are `[10, 4]` then `[3, 4]` -/
example : (match run demoCfg (initSt demoPop demoBest) c20Pre with
    | some s0 => greedyRun demoCfg s0 c20Greedy &&
        ((run demoCfg s0 c20Greedy).map (fun s => s.fitLog)) == some [[10, 4], [3, 4]]
    | none => false) = true := by decide +kernel

/-- the monitor does reject the very first sweep of a non-swarm optimiser (the sentinel records
    are not truthful): monitoring starts after the initial evaluation -/
example : greedyRun demoCfg (initSt demoPop demoBest) c20Pre = false := by decide +kernel

/-- swarm family: a sweep that does not improve an *untruthful* personal best leaves the
    record untruthful and the running flag drops (so `sweep_swarm_tp` needs its case
    hypothesis) -/
example : ((apply c20Swarm
      { (initSt [{ pos := [[1]], tpos := [[2]], fit := 5, ref := 1 }]
          { pos := [[0]], tpos := [[0]], fit := 5, ref := 0 }) with cursor := 0, tp := true }
      (.sweep 7 false 2)).map (fun s => (s.tp, s.pop.map (·.fit)))) = some (false, [5]) := by decide +kernel
/-- … while an improving evaluation keeps it -/
example : ((apply c20Swarm
      { (initSt [{ pos := [[1]], tpos := [[2]], fit := 5, ref := 1 }]
          { pos := [[0]], tpos := [[0]], fit := 5, ref := 0 }) with cursor := 0, tp := true }
      (.sweep 3 false 2)).map (fun s => (s.tp, s.pop.map (·.fit)))) = some (true, [3]) := by decide +kernel

/-- harmony memory `[1, 4, 6, 9]`, new harmony `5` replaces the worst; `12` does not -/
example : insertSorted 5 [1, 4, 6, 9].dropLast = [1, 4, 5, 6] := by decide +kernel
example : replaceWorst 5 [1, 4, 6, 9] = [1, 4, 5, 6] := by decide +kernel
example : replaceWorst 12 [1, 4, 6, 9] = [1, 4, 6, 9] := by decide +kernel
example : [1, 4, 6, (9 : Int)].Pairwise (· ≤ ·) := by decide +kernel

#print axioms C20_records_truthful
#print axioms sweep_tp
#print axioms sweep_nonswarm_tp
#print axioms sweep_swarm_tp
#print axioms sweep_truthful_same_fit
#print axioms sweep_swarm_fit_le
#print axioms greedy_fits_antitone
#print axioms greedy_fits_antitone_idx
#print axioms C20_greedy_agents
#print axioms C20_greedy_two_dumps
#print axioms replaceWorst_rank_antitone
#print axioms replaceWorst_noop
#print axioms replaceWorst_antitone

end Opy
