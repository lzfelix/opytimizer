import OpyVerif.Model.HistProg
import OpyVerif.Generated.HistProg.getProg_eq
/-!
C19 about the *translated* `History.get`.
-/
namespace Opy

/-- the translated `get` is the model `get` (checks, their order, the index path, `hstack`) -/
theorem code_get (records : List Rec) (isTuple : Bool) (index : List Nat) :
    Gen.getProg.run records isTuple index = some (get records isTuple index) := by
  rw [Gen.getProg_eq]; exact getProg_is_get records isTuple index

end Opy
