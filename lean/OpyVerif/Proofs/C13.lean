import OpyVerif.Proofs.Lemmas.RealLemmas
/-!
C13 — `hypercomplex.span` over `ℝ`: a hypercomplex position with entries in `[0,1]` is mapped into
the box `[lb, ub]` of every variable; the map depends on the row only through its norm and is
monotone in it. The formulas are the ones of `Model/Num.lean` (`norm`, `spanRow`, `span`),
instantiated at `ℝ` through `Proofs/RealElem.lean`.
-/
namespace Opy

/-- entries in `[0,1]` ⇒ `0 ≤ ‖row‖ ≤ √d` -/
theorem norm_le_sqrt_d (row : List ℝ) (h : ∀ v ∈ row, 0 ≤ v ∧ v ≤ 1) :
    0 ≤ norm row ∧ norm row ≤ Real.sqrt (row.length : ℝ) := by
  rw [norm_real]; exact ⟨Real.sqrt_nonneg _, Real.sqrt_le_sqrt (sumsq_le_length row h)⟩

/-- one spanned variable lies within its bounds -/
theorem spanRow_mem (lb ub : ℝ) (row : List ℝ) (hb : lb ≤ ub) (hne : row ≠ [])
    (h : ∀ v ∈ row, 0 ≤ v ∧ v ≤ 1) : lb ≤ spanRow lb ub row ∧ spanRow lb ub row ≤ ub := by
  obtain ⟨h0, h1⟩ := norm_le_sqrt_d row h
  have hs := sqrt_length_pos row hne
  rw [spanRow_real]
  exact lerp_mem lb ub _ hb (div_nonneg h0 hs.le) ((div_le_one hs).mpr h1)

set_option linter.unusedVariables false in
/-- the all-zeros position is the lower bound (`hne`, the domain on which the code is defined, is not used: over `ℝ` `0 / 0 = 0`) -/
theorem spanRow_zeros (lb ub : ℝ) (row : List ℝ) (hne : row ≠ []) (h : ∀ v ∈ row, v = 0) :
    spanRow lb ub row = lb := by
  rw [spanRow_real, norm_real, sumsq_zeros row h, Real.sqrt_zero, zero_div, lerp_zero]

/-- the all-ones position is the upper bound -/
theorem spanRow_ones (lb ub : ℝ) (row : List ℝ) (hne : row ≠ []) (h : ∀ v ∈ row, v = 1) :
    spanRow lb ub row = ub := by
  rw [spanRow_real, norm_real, sumsq_ones row h, div_self (sqrt_length_pos row hne).ne', lerp_one]

/-- rows of the same dimension and the same norm span to the same value -/
theorem spanRow_depends_on_norm (lb ub : ℝ) (r1 r2 : List ℝ) (hn : norm r1 = norm r2)
    (hl : r1.length = r2.length) : spanRow lb ub r1 = spanRow lb ub r2 := by
  rw [spanRow_real, spanRow_real, hn, hl]

set_option linter.unusedVariables false in
/-- for rows of the same dimension the spanned value is monotone in the norm (`hne` is not used, as in `spanRow_zeros`) -/
theorem spanRow_mono_norm (lb ub : ℝ) (r1 r2 : List ℝ) (hb : lb ≤ ub) (hl : r1.length = r2.length)
    (hne : r1 ≠ []) (hn : norm r1 ≤ norm r2) : spanRow lb ub r1 ≤ spanRow lb ub r2 := by
  rw [spanRow_real, spanRow_real, hl]
  exact lerp_mono _ _ hb (div_le_div_of_nonneg_right hn (Real.sqrt_nonneg _))

/-- `span` returns one value per variable -/
theorem span_length (lbs ubs : List ℝ) (rows : List (List ℝ)) (hl : lbs.length = rows.length)
    (hu : ubs.length = rows.length) : (span lbs ubs rows).length = rows.length := by
  rw [span_length_min, hl, hu, min_self, min_self]

theorem span_entry (lbs ubs : List ℝ) (rows : List (List ℝ)) (j : Nat)
    (hj : j < (span lbs ubs rows).length) (h1 : j < lbs.length) (h2 : j < ubs.length)
    (h3 : j < rows.length) : (span lbs ubs rows)[j] = spanRow lbs[j] ubs[j] rows[j] := by
  simp only [span_eq_zipWith, List.getElem_zipWith, List.getElem_zip]

set_option linter.unusedVariables false in
/-- every spanned variable lies within its own bounds (`hu` is not used: `h2` bounds the index in `ubs` directly) -/
theorem span_mem (lbs ubs : List ℝ) (rows : List (List ℝ)) (hl : lbs.length = rows.length)
    (hu : ubs.length = rows.length)
    (hb : ∀ j (h1 : j < lbs.length) (h2 : j < ubs.length), lbs[j] ≤ ubs[j])
    (hrows : ∀ r ∈ rows, r ≠ [] ∧ ∀ v ∈ r, 0 ≤ v ∧ v ≤ 1)
    (j : Nat) (hj : j < (span lbs ubs rows).length) (h1 : j < lbs.length) (h2 : j < ubs.length) :
    lbs[j] ≤ (span lbs ubs rows)[j] ∧ (span lbs ubs rows)[j] ≤ ubs[j] := by
  have h3 : j < rows.length := hl ▸ h1
  rw [span_entry lbs ubs rows j hj h1 h2 h3]
  obtain ⟨hne, hv⟩ := hrows rows[j] (List.getElem_mem h3)
  exact spanRow_mem _ _ _ (hb j h1 h2) hne hv

/-! satisfiability of the hypotheses, on concrete numbers -/

example : ∃ (lb ub : ℝ) (row : List ℝ), lb ≤ ub ∧ row ≠ [] ∧ (∀ v ∈ row, 0 ≤ v ∧ v ≤ 1) :=
  ⟨-10, 10, [1 / 2, 1 / 4], by norm_num, by simp, by
    intro v hv
    simp only [List.mem_cons, List.not_mem_nil, or_false] at hv
    rcases hv with rfl | rfl <;> norm_num⟩

example : spanRow (-10 : ℝ) 10 [0, 0, 0] = -10 :=
  spanRow_zeros _ _ _ (by simp) (by intro v hv; simpa using hv)

example : spanRow (-10 : ℝ) 10 [1, 1] = 10 :=
  spanRow_ones _ _ _ (by simp) (by intro v hv; simpa using hv)

example : (span [(-10 : ℝ), 0] [10, 1] [[1, 1], [0, 0]]).length = 2 :=
  span_length _ _ _ rfl rfl

#print axioms norm_le_sqrt_d
#print axioms spanRow_mem
#print axioms spanRow_zeros
#print axioms spanRow_ones
#print axioms spanRow_depends_on_norm
#print axioms spanRow_mono_norm
#print axioms span_length
#print axioms span_entry
#print axioms span_mem

end Opy
