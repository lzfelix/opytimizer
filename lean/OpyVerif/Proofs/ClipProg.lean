import OpyVerif.Model.ClipProg
import OpyVerif.Proofs.C06
/-!
The expected `check_limits` loops mean the functions of `Model/Clip` the C01 / C06 / C13 theorems are
about — for every bound vector (of any lengths) and every position / population.
-/
namespace Opy

theorem clipRows_zip (lbs ubs : List Int) (p : Pos) :
    clipRows .zipFst .zipSnd (List.zip lbs ubs) p = clipPos lbs ubs p := by
  induction lbs, ubs, p using boxInduct with
  | step l lbs u ubs r rows ih => simp [clipRows, BRef.pick, ih]
  | stop lbs ubs p h =>
    rw [clipPos_stop lbs ubs p h]
    rcases h with rfl | rfl | rfl <;> simp [clipRows]

theorem clipRows_lit (a b : Int) (ps : List (Int × Int)) (p : Pos) :
    clipRows (.lit a) (.lit b) ps p = clipPos (List.replicate ps.length a) (List.replicate ps.length b) p := by
  induction ps generalizing p with
  | nil => exact (clipPos_stop _ _ _ (.inl rfl)).symm
  | cons q ps ih =>
    cases p with
    | nil => exact (clipPos_stop _ _ _ (.inr (.inr rfl))).symm
    | cons r rows => simp [clipRows, List.replicate_succ, BRef.pick, ih]

/-- `Agent.check_limits` as read from the source is `clipPos` with the agent's own bounds -/
theorem agentClip_run (lbs ubs : List Int) (p : Pos) :
    Expected.agentClip.runPos lbs ubs p = clipPos lbs ubs p := clipRows_zip lbs ubs p

/-- `SearchSpace.check_limits` is `clipAll` with the space's bounds -/
theorem searchClip_run (lbs ubs : List Int) (pop : List Pos) :
    Expected.searchClip.runAll lbs ubs pop = clipAll lbs ubs pop :=
  List.map_congr_left fun p _ => agentClip_run lbs ubs p

theorem hyperClip_runPos (lbs ubs : List Int) (p : Pos) :
    Expected.hyperClip.runPos lbs ubs p = clipHyper (min lbs.length ubs.length) p := by
  rw [← List.length_zip]; exact clipRows_lit keyZero keyOne (List.zip lbs ubs) p

/-- `HyperSpace.check_limits` clips the first `min(len lb, len ub)` rows to the unit interval,
    whatever the declared bounds are -/
theorem hyperClip_run (lbs ubs : List Int) (pop : List Pos) :
    Expected.hyperClip.runAll lbs ubs pop = clipAllHyper (min lbs.length ubs.length) pop :=
  List.map_congr_left fun p _ => hyperClip_runPos lbs ubs p

theorem expected_wellFormed :
    Expected.agentClip.wellFormed = true ∧ Expected.searchClip.wellFormed = true ∧
    Expected.hyperClip.wellFormed = true := by decide

end Opy
