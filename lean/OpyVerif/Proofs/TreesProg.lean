import OpyVerif.Proofs.Forest
import OpyVerif.Model.TreesProg
/-!
C08 (construction clause): the forest a tree space starts with.
-/
namespace Opy
open PNode

theorem treesProg_run (cfg : GrowCfg) (k n : Nat) (draws : List Nat) (nid : Nat) :
    Expected.treesProg.run cfg k n draws nid =
      match growMany cfg k n draws nid with
      | some (t0 :: ts, _, m) => some ⟨t0 :: ts, shift m t0, 2 * m⟩
      | _ => none :=
  rfl

/-- **the initial forest**: `n_trees` proper trees no two of which share a node, and a best tree that is a proper tree
    sharing no node with any of them -/
theorem treesProg_popOK (cfg : GrowCfg) (k n : Nat) (draws : List Nat) (nid : Nat) (P : Pop)
    (h : Expected.treesProg.run cfg k n draws nid = some P) :
    PopOK cfg.ar P ∧ P.trees.length = n ∧ P.best ≠ nil ∧ 0 < n := by
  rw [treesProg_run] at h
  split at h
  · next t0 ts d m hg =>
    cases h
    have hP := growMany_popOK cfg k n draws nid (t0 :: ts) d m hg
    have hlen := (growMany_blocks hg).2.1
    have h0 := List.mem_cons_self (a := t0) (l := ts)
    have ⟨hwfs, hlts, _, _⟩ := hP
    exact ⟨popOK_best_fresh hP (Nat.le_mul_of_pos_left m (by decide)) (shift_wf (hwfs t0 h0))
        (Nat.two_mul m ▸ shift_ids_range (hlts t0 h0)),
      hlen, mt shift_eq_nil.1 (hwfs t0 h0).1, hlen ▸ Nat.succ_pos _⟩
  · cases h

/-- non-vacuity: the forest of `Proofs/Forest.lean` with its best tree -/
example : ((Expected.treesProg.run cfgE 2 3 drawsE 1).map fun P => (P.trees.map PNode.size, P.best.size, P.next)) = some ([3, 2, 5], 3, 22) := by
  decide +kernel

/-- one tree object repeated is representable and is not a proper forest: two slots share every node -/
example : ((({ Expected.treesProg with listKind := .repeated } : TreesProg).run cfgE 2 2 drawsE 1).map
    fun P => P.trees.map (·.ids)) = some [[1, 2, 3], [1, 2, 3]] := by decide +kernel

end Opy
