import OpyVerif.Proofs.InitProg
import OpyVerif.Generated.Init.terminalsInit_eq
/-!
C06 (construction clause) about the *translated* `TreeSpace._initialize_terminals`: the terminals of a tree space are
sampled by the same loop as its agents, so whatever `grow` hangs into a tree lies inside the declared box.
-/
namespace Opy

theorem code_terminalsInit (lbs ubs : List Int) (v : Nat) (draws : List Pos) (h : lbs.length = ubs.length)
    (hd : ∀ p ∈ draws, InBox lbs ubs p) :
    ∃ terminals, Gen.terminalsInit.run lbs ubs v draws = some terminals ∧ Gen.terminalsInit.ranges lbs ubs v = List.zip lbs ubs ∧
      ∀ a ∈ terminals, InBox lbs ubs a.pos ∧ a.lb = lbs ∧ a.ub = ubs ∧ clipPos a.lb a.ub a.pos = a.pos := by
  rw [Gen.terminalsInit_eq]; exact searchInit_spec lbs ubs v draws h hd

end Opy
