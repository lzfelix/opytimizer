import OpyVerif.Proofs.Lemmas.TreeLemmas
/-!
C11 — tree traversals, `_properties` and `find_node` compute what they are meant to, for every
tree (no depth bound).  Algorithms are the code's own loops (`OpyVerif.Model.Tree`); the
specifications are structural recursions.
-/
namespace Opy.PNode

set_option linter.unusedVariables false in
/-- `Node.pre_order` (explicit stack) lists root, left, right. -/
theorem preOrder_eq_pre (t : PNode) (h : t ≠ nil) : t.preOrder = t.pre :=
  preOrder_eq t

/-- `Node.post_order` (one stack, identity test on the stack top) lists left, right, root,
    provided no node object occurs twice. -/
theorem postOrder_eq_post (t : PNode) (h : t.ids.Nodup) : t.postOrder = t.post := by
  rw [postOrder, Nat.add_comm, postLoop_sub t 1 [] [] h (fun _ _ hx => nomatch hx), postLoop_nil_nil]
  rfl

/-- the identities listed by the pre-order are exactly the tree's identities, in order -/
theorem pre_ids (t : PNode) : t.pre.map (fun n => n.id?) = t.ids.map some := pre_map_id? t

/-- post-order and pre-order list the same nodes with the same multiplicities -/
theorem post_perm_pre (t : PNode) : List.Perm t.post t.pre := by
  induction t with
  | nil => exact List.Perm.refl _
  | mk i lb p f l r ihl ihr =>
    simp only [post, pre]
    refine List.Perm.trans (List.perm_append_singleton _ _) ?_
    exact List.Perm.cons _ (List.Perm.append ihl ihr)

/-- with distinct identities every node is listed exactly once -/
theorem pre_nodup (t : PNode) (h : t.ids.Nodup) : t.pre.Nodup :=
  List.Pairwise.of_map id? (fun a b hab h => hab (by rw [h])) (pre_map_id?_nodup h)

/-- `_properties`: (min leaf depth, max leaf depth, #childless nodes, #nodes), including the
    `if min_depth == 0` sentinel test. -/
theorem properties_eq (t : PNode) (h : t ≠ nil) :
    t.properties = ⟨t.minD, (t.maxD : Int), t.leaves, t.size⟩ := by
  unfold properties
  rw [bfs_forest _ [t] (-1) 0 0 0 0 (by simp) (by simpa using h) (Or.inr ⟨t, rfl⟩) rfl
    (by simp [fheight])]
  simp [fminD, fheight, fleaves, sizeL]
  omega

/-! ### `find_node`

`n` is the node at pre-order position `p`, written `t.pre[p]? = some n` (for `p < t.size` such an
`n` exists: `pre_getElem?_exists`).  "Where `n` actually hangs" is `parentOf t (idOf n)`: a
structural search of the tree that never reads the stored `par`/`flag` (`parentOf_sound`,
`parentOf_complete` in the lemma file say it answers exactly the tree's edges).  `side = true`
means "left child".  Hypotheses that are implied by the others (`p < t.size` by `hn`; `1 ≤ p` in
the function-node cases by the existence of a structural parent) are kept to mirror the
informal statement; they are not used. -/

set_option linter.unusedVariables false in
/-- a terminal at position `p ≥ 1`: `find_node` answers the node it really hangs under and the
    real side -/
theorem findNode_terminal (ar : Nat → Nat) (t : PNode) (hwf : WF ar t) (p : Nat)
    (h1 : 1 ≤ p) (h2 : p < t.size) (n : PNode) (hn : t.pre[p]? = some n)
    (hterm : n.isTermNode = true) :
    ∃ pid side, parentOf t (idOf n) = some (pid, side) ∧ findNode t p = .slot pid side := by
  rcases kidsLinked_parentOf t hwf.2.2.1 hwf.nodup n (List.mem_of_getElem? hn) with h | ⟨q, _, hq⟩
  · exact absurd h (ne_root_of_pos hwf.nodup h1 hn)
  · exact ⟨q, _, hq, by rw [hwf.findNode_eq hn, hq]; simp [hterm]⟩

set_option linter.unusedVariables false in
/-- a function node whose structural parent `q` has a structural parent `g`: `find_node`
    answers `g` and the side on which `q` hangs under `g` -/
theorem findNode_function (ar : Nat → Nat) (t : PNode) (hwf : WF ar t) (p : Nat)
    (h1 : 1 ≤ p) (h2 : p < t.size) (n : PNode) (hn : t.pre[p]? = some n)
    (hfun : n.isTermNode = false) (q g : Nat) (s1 s2 : Bool)
    (hq : parentOf t (idOf n) = some (q, s1)) (hg : parentOf t q = some (g, s2)) :
    findNode t p = .slot g s2 := by
  rw [hwf.findNode_eq hn, hq]; simp [hfun, hg]

set_option linter.unusedVariables false in
/-- a function node hanging directly under the root: `(None, False)` -/
theorem findNode_function_under_root (ar : Nat → Nat) (t : PNode) (hwf : WF ar t) (p : Nat)
    (h1 : 1 ≤ p) (h2 : p < t.size) (n : PNode) (hn : t.pre[p]? = some n)
    (hfun : n.isTermNode = false) (q : Nat) (s : Bool)
    (hq : parentOf t (idOf n) = some (q, s)) (hroot : t.id? = some q) :
    findNode t p = .noSlot := by
  rw [hwf.findNode_eq hn, hq]; simp [hfun, parentOf_root_none t hwf.nodup q hroot]

set_option linter.unusedVariables false in
/-- a position past the end: `(None, False)` -/
theorem findNode_out_of_range (t : PNode) (p : Nat) (h : t.size ≤ p) (ht : t ≠ nil) :
    findNode t p = .noSlot := by
  unfold findNode
  rw [preOrder_eq, List.getElem?_eq_none (by rw [pre_length]; exact h)]

/-- position 0 on a function root: the code dereferences `None.parent` and raises -/
theorem findNode_zero_function_root (ar : Nat → Nat) (t : PNode) (hwf : WF ar t)
    (hfun : t.isTermNode = false) : findNode t 0 = .error := by
  rw [hwf.findNode_eq (pre_head t hwf.1), parentOf_root_none t hwf.nodup _ (id?_eq_idOf hwf.1)]
  simp [hfun]

/-! ### the hypotheses are satisfiable: `add(sqrt(neg(x)), y)` -/

/-- operator 0 is binary, every other operator unary -/
def ar0 : Nat → Nat := fun k => if k = 0 then 2 else 1

def t0 : PNode :=
  mk 10 ⟨false, 0, 0⟩ none false
    (mk 11 ⟨false, 1, 0⟩ (some 10) true
      (mk 12 ⟨false, 2, 0⟩ (some 11) true
        (mk 13 ⟨true, 0, 7⟩ (some 12) true nil nil) nil) nil)
    (mk 14 ⟨true, 1, 8⟩ (some 10) false nil nil)

example : WF ar0 t0 := wfB_sound ar0 t0 (by decide +kernel)
example : t0 ≠ nil ∧ t0.ids.Nodup := by decide +kernel
example : t0.preOrder = t0.pre ∧ t0.postOrder = t0.post := by decide +kernel
example : t0.properties = ⟨1, 3, 2, 5⟩ := by decide +kernel
-- position 3 is the terminal `x` (id 13), the left child of node 12
example : ∃ n, t0.pre[3]? = some n ∧ n.isTermNode = true ∧ parentOf t0 (idOf n) = some (12, true)
    ∧ findNode t0 3 = .slot 12 true := ⟨_, rfl, rfl, rfl, by decide +kernel⟩
-- position 4 is the terminal `y` (id 14), the right child of the root
example : ∃ n, t0.pre[4]? = some n ∧ n.isTermNode = true ∧ parentOf t0 (idOf n) = some (10, false)
    ∧ findNode t0 4 = .slot 10 false := ⟨_, rfl, rfl, rfl, by decide +kernel⟩
-- position 2 is `neg` (id 12) under `sqrt` (id 11) under the root (id 10)
example : ∃ n, t0.pre[2]? = some n ∧ n.isTermNode = false ∧ parentOf t0 (idOf n) = some (11, true)
    ∧ parentOf t0 11 = some (10, true) ∧ findNode t0 2 = .slot 10 true :=
  ⟨_, rfl, rfl, rfl, rfl, by decide +kernel⟩
-- position 1 is `sqrt` (id 11) directly under the root
example : ∃ n, t0.pre[1]? = some n ∧ n.isTermNode = false ∧ parentOf t0 (idOf n) = some (10, true)
    ∧ t0.id? = some 10 ∧ findNode t0 1 = .noSlot := ⟨_, rfl, rfl, rfl, rfl, by decide +kernel⟩
example : t0.isTermNode = false ∧ findNode t0 0 = .error := by decide +kernel
example : t0.size ≤ 5 ∧ findNode t0 5 = .noSlot := by decide +kernel

-- a shape outside the arity discipline (left = nil, right ≠ nil) is covered by the traversal and
-- `_properties` theorems too
example : let t := mk 1 ⟨false, 0, 0⟩ none false nil (mk 2 ⟨true, 0, 0⟩ (some 1) false nil nil)
    t ≠ nil ∧ t.ids.Nodup ∧ t.preOrder = t.pre ∧ t.postOrder = t.post
      ∧ t.properties = ⟨1, 1, 1, 2⟩ := by decide +kernel

end Opy.PNode

#print axioms Opy.PNode.preOrder_eq_pre
#print axioms Opy.PNode.postOrder_eq_post
#print axioms Opy.PNode.pre_ids
#print axioms Opy.PNode.post_perm_pre
#print axioms Opy.PNode.pre_nodup
#print axioms Opy.PNode.properties_eq
#print axioms Opy.PNode.findNode_terminal
#print axioms Opy.PNode.findNode_function
#print axioms Opy.PNode.findNode_function_under_root
#print axioms Opy.PNode.findNode_out_of_range
#print axioms Opy.PNode.findNode_zero_function_root
