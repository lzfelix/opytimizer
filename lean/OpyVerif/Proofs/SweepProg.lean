import OpyVerif.Model.SweepProg
import OpyVerif.Proofs.Accept
import OpyVerif.Proofs.Lemmas.MachineSpec
/-!
The expected sweep loops are the machine's sweep rule: for every agent, best agent, objective value and
storage identity.  (`tie := false`: the code replaces the best on strict improvement only; the machine also
accepts implementations that take ties, which is why its rule has the flag and why the `…Le` loops are covered as well.)
-/
namespace Opy

/-- the `.best` step is the machine's rule for the best agent, whatever the steps before it made of the agent -/
theorem bestStep_run (lbs ubs : List Int) (tp : Pos) (v : Int) (fresh : Nat) (tie : Bool)
    (src : PosSrc) (t : Option Bool) (s : SweepSt)
    (hp : src = .localPos ∨ (src = .agentPos ∧ s.a.pos = s.a.tpos)) :
    (SweepStep.best (if tie then .le else .lt) src true true t).run lbs ubs tp v fresh s =
      { s with best := if takes s.best s.a tie then bestOf s.a fresh else s.best } := by
  simp only [SweepStep.run, ← takes_eq_eval, Bool.and_true]
  split
  · rcases hp with rfl | ⟨rfl, h⟩
    · rfl
    · simp only [h]; rfl
  · rfl

/-- `Optimizer._evaluate`, and `GP._evaluate` once it has set the position -/
theorem evalBest_rule (tie : Bool) (t : Option Bool) (l : SweepLoop)
    (hl : l.steps = [.evalToFit, .best (if tie then .le else .lt) .agentPos true true t])
    (cfg : Cfg) (hs : cfg.swarm = false) (a best : Ag) (v : Int) (fresh : Nat) (tp : Pos) :
    l.body cfg.lbs cfg.ubs tp v fresh a best =
      (sweepAgent cfg a v, if takes best (sweepAgent cfg a v) tie then bestOf (sweepAgent cfg a v) fresh else best) := by
  simp only [SweepLoop.body, hl, List.foldl_cons, List.foldl_nil]
  rw [bestStep_run (hp := Or.inr ⟨rfl, rfl⟩), sweepAgent_nonswarm cfg a v hs]
  rfl

/-- `PSO._evaluate` -/
theorem pbestBest_rule (tie : Bool) (l : SweepLoop)
    (hl : l.steps = [.evalToLocal, .pbest .lt true true,
      .best (if tie then .le else .lt) .localPos true true none])
    (cfg : Cfg) (hs : cfg.swarm = true) (a best : Ag) (v : Int) (fresh : Nat) (tp : Pos) :
    l.body cfg.lbs cfg.ubs tp v fresh a best =
      (sweepAgent cfg a v, if takes best (sweepAgent cfg a v) tie then bestOf (sweepAgent cfg a v) fresh else best) := by
  simp only [SweepLoop.body, hl, List.foldl_cons, List.foldl_nil]
  rw [bestStep_run (hp := Or.inl rfl)]
  -- the first two steps are `sweepAgent` of the swarm family
  have : ((SweepStep.pbest .lt true true).run cfg.lbs cfg.ubs tp v fresh
      (SweepStep.evalToLocal.run cfg.lbs cfg.ubs tp v fresh ⟨a, best, none⟩)) =
      ⟨sweepAgent cfg a v, best, some v⟩ := by
    by_cases h : v < a.fit <;> simp [SweepStep.run, Cmp.eval, sweepAgent, hs, h]
  rw [this]

/-- `GP._evaluate`: once the position is the tree's value limited to the bounds, the steps left
    are those of `evalBest_rule` -/
theorem gpBest_rule (tie : Bool) (l : SweepLoop)
    (hl : l.steps = [.posFromTree true, .clipAgent, .evalToFit,
      .best (if tie then .le else .lt) .agentPos true true (some true)])
    (cfg : Cfg) (hs : cfg.swarm = false) (a best : Ag) (v : Int) (fresh : Nat) (tp : Pos) :
    l.body cfg.lbs cfg.ubs tp v fresh a best =
      (let a0 := { a with pos := clipPos cfg.lbs cfg.ubs tp }
       (sweepAgent cfg a0 v, if takes best (sweepAgent cfg a0 v) tie then bestOf (sweepAgent cfg a0 v) fresh else best)) := by
  rw [← evalBest_rule tie (some true) ⟨l.iter, _, l.outside⟩ rfl cfg hs _ best v fresh tp]
  simp only [SweepLoop.body, hl, List.foldl_cons]
  rfl

theorem genericSweep_is_machine_rule (cfg : Cfg) (hs : cfg.swarm = false) (a best : Ag) (v : Int) (fresh : Nat) (tp : Pos) :
    Expected.genericSweep.body cfg.lbs cfg.ubs tp v fresh a best =
      (sweepAgent cfg a v, if takes best (sweepAgent cfg a v) false then bestOf (sweepAgent cfg a v) fresh else best) :=
  evalBest_rule false none _ rfl cfg hs a best v fresh tp

theorem psoSweep_is_machine_rule (cfg : Cfg) (hs : cfg.swarm = true) (a best : Ag) (v : Int) (fresh : Nat) (tp : Pos) :
    Expected.psoSweep.body cfg.lbs cfg.ubs tp v fresh a best =
      (sweepAgent cfg a v, if takes best (sweepAgent cfg a v) false then bestOf (sweepAgent cfg a v) fresh else best) :=
  pbestBest_rule false _ rfl cfg hs a best v fresh tp

/-- GP: the agent's position becomes the tree's value limited to the bounds, the objective is applied there;
    afterwards exactly the generic rule (the machine's GP agents carry `clip(value(tree))` as their position) -/
theorem gpSweep_is_machine_rule (cfg : Cfg) (hs : cfg.swarm = false) (a best : Ag) (v : Int) (fresh : Nat) (tp : Pos) :
    Expected.gpSweep.body cfg.lbs cfg.ubs tp v fresh a best =
      (let a0 := { a with pos := clipPos cfg.lbs cfg.ubs tp }
       (sweepAgent cfg a0 v, if takes best (sweepAgent cfg a0 v) false then bestOf (sweepAgent cfg a0 v) fresh else best)) :=
  gpBest_rule false _ rfl cfg hs a best v fresh tp

/-! the `<=` variants are the machine rule with the tie flag set -/

theorem genericSweepLe_is_machine_rule (cfg : Cfg) (hs : cfg.swarm = false) (a best : Ag) (v : Int) (fresh : Nat) (tp : Pos) :
    Expected.genericSweepLe.body cfg.lbs cfg.ubs tp v fresh a best =
      (sweepAgent cfg a v, if takes best (sweepAgent cfg a v) true then bestOf (sweepAgent cfg a v) fresh else best) :=
  evalBest_rule true none _ rfl cfg hs a best v fresh tp

theorem psoSweepLe_is_machine_rule (cfg : Cfg) (hs : cfg.swarm = true) (a best : Ag) (v : Int) (fresh : Nat) (tp : Pos) :
    Expected.psoSweepLe.body cfg.lbs cfg.ubs tp v fresh a best =
      (sweepAgent cfg a v, if takes best (sweepAgent cfg a v) true then bestOf (sweepAgent cfg a v) fresh else best) :=
  pbestBest_rule true _ rfl cfg hs a best v fresh tp

theorem gpSweepLe_is_machine_rule (cfg : Cfg) (hs : cfg.swarm = false) (a best : Ag) (v : Int) (fresh : Nat) (tp : Pos) :
    Expected.gpSweepLe.body cfg.lbs cfg.ubs tp v fresh a best =
      (let a0 := { a with pos := clipPos cfg.lbs cfg.ubs tp }
       (sweepAgent cfg a0 v, if takes best (sweepAgent cfg a0 v) true then bestOf (sweepAgent cfg a0 v) fresh else best)) :=
  gpBest_rule true _ rfl cfg hs a best v fresh tp

/-- every sweep calls the objective exactly once per agent -/
theorem sweeps_eval_once :
    Expected.genericSweep.evalsOnce = true ∧ Expected.psoSweep.evalsOnce = true ∧ Expected.gpSweep.evalsOnce = true := by
  decide

/-- after a generic / GP round the agent's record is truthful: its fitness is the value returned for its position -/
theorem genericSweep_truthful (cfg : Cfg) (hs : cfg.swarm = false) (a best : Ag) (v : Int) (fresh : Nat) (tp : Pos) :
    (Expected.genericSweep.body cfg.lbs cfg.ubs tp v fresh a best).1.fit = v ∧
    (Expected.genericSweep.body cfg.lbs cfg.ubs tp v fresh a best).1.tpos = a.pos := by
  rw [genericSweep_is_machine_rule cfg hs, sweepAgent_nonswarm cfg a v hs]
  exact ⟨rfl, rfl⟩

/-- the best agent never gets worse in a round, and when it changes it takes the agent's pair in fresh storage -/
theorem genericSweep_best (cfg : Cfg) (a best : Ag) (v : Int) (fresh : Nat) (tp : Pos) :
    let r := Expected.genericSweep.body cfg.lbs cfg.ubs tp v fresh a best
    r.2.fit ≤ best.fit ∧ (r.2 ≠ best → r.2.fit = v ∧ r.2.pos = a.pos ∧ r.2.ref = fresh) := by
  intro r
  -- the rule reads nothing of a configuration but `swarm`: any non-swarm one with these bounds will do
  have hr : r = _ := evalBest_rule false none Expected.genericSweep rfl ⟨0, false, cfg.lbs, cfg.ubs⟩ rfl a best v fresh tp
  rw [hr, sweepAgent_nonswarm _ a v rfl]
  refine ⟨(rule_best best _ false fresh).1, ?_⟩
  dsimp only
  split
  · exact fun _ => ⟨rfl, rfl, rfl⟩
  · exact fun h => absurd rfl h

end Opy
