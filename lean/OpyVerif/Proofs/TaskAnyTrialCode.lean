import OpyVerif.Proofs.TaskAnyTrial
import OpyVerif.Proofs.TaskTrialCode
/-!
`Proofs/TaskAnyTrial.lean` about what the translator read on this run: the sites of `Gen.evalSites` call the objective once,
and a task of any of the sixteen skeletons with `SearchSpace.check_limits` and `Optimizer._evaluate` evaluates inside the box.
-/
namespace Opy
open Opy.Task

/-- **C03 about the translated sites.**  Every evaluation site of the current source calls the objective exactly once
    (`decide` over `Gen.evalSites`), so an update built from them makes at most one call per trial. -/
theorem code_anyUpdate_calls (lbs ubs : List Int) (f : Pos → Int) (pop : List Ag) (ts : List AnyTrial)
    (hsites : ∀ t ∈ ts, t.site ∈ Gen.evalSites) : (anyUpdate lbs ubs f pop ts).2.length ≤ ts.length :=
  anyUpdate_calls lbs ubs f pop ts (fun t ht => code_sites_one_eval t.site (hsites t ht))

/-- **C01 about the translated programs, every objective call.**  Any of the sixteen skeletons, `SearchSpace.check_limits`,
    `Optimizer._evaluate`, trials at any non-sweep sites of `Gen.evalSites` with arbitrary outcomes: every position handed to the
    objective, by a sweep or inside an update, lies in the declared box — for every `N`, objective and script. -/
theorem code_task_all_evals_inBox (sk : Skeleton) (hsk : sk ∈ Gen.taskSkeletons) (lbs ubs : List Int) (hb : BoundsOk lbs ubs)
    (f : Pos → Int) (script : Nat → List AnyTrial)
    (hscript : ∀ k, ∀ t ∈ script k, t.site ∈ Gen.evalSites ∧ t.site.isSweep = false ∧ t.after.pos.length = lbs.length ∧
      ∀ q ∈ t.proposals, q.length = lbs.length)
    (pop : List Ag) (best : Ag) (h0 : ∀ a ∈ pop, InBox lbs ubs a.pos) (N : Nat) :
    let s := TaskProg.runTask ⟨sk, Gen.searchClip, Gen.genericSweep⟩ lbs ubs (anyOracle lbs ubs f script) (TaskSt.start pop best) N
    (∀ e ∈ s.evals, InBox lbs ubs e.1) ∧ (∀ e ∈ s.trialEvals, InBox lbs ubs e.1) :=
  task_all_evals_inBox ⟨sk, Gen.searchClip, Gen.genericSweep⟩ lbs ubs f script (code_taskSkeletons_good sk hsk) hb
    (code_searchClip_clipsInto lbs ubs hb) code_genericSweep_isRule
    (fun k t ht => have ⟨h1, h2, h3, h4⟩ := hscript k t ht; ⟨code_trialSites_ok t.site h1 h2, h3, h4⟩)
    pop best h0 N

end Opy
