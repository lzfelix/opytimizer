import OpyVerif.Proofs.C13
import OpyVerif.Proofs.Formulas
import OpyVerif.Generated.FormulasC13
/-!
C13 stated about the *translated source*: the expressions of `Generated/FormulasDefs.lean` are what
`harness/translate_formulas.py` read from the current working tree.  Each theorem composes the
regenerated equality "source = expected expression" (`Generated/FormulasC13.lean`, re-decided on
every build), the denotation theorem of `Proofs/Formulas.lean` (expected expression = model, all
inputs) and the real-number theorem about the model.  `env` gives the values of the two named
quantities the expression mentions, `lb` and `ub`.
-/
namespace Opy

theorem code_span (env : String → ℝ) (row : List ℝ) :
    Gen.spanExpr.denote env row = .s (spanRow (env "lb") (env "ub") row) := by
  rw [Gen.span_eq]; exact d_span env row

theorem code_norm (env : String → ℝ) (row : List ℝ) : Gen.normExpr.denote env row = .s (norm row) := by
  rw [Gen.norm_eq]; exact d_norm env row

/-- the spanned value of a unit-box row lies within the variable's bounds -/
theorem code_span_mem (env : String → ℝ) (row : List ℝ) (hb : env "lb" ≤ env "ub") (hne : row ≠ [])
    (h : ∀ v ∈ row, 0 ≤ v ∧ v ≤ 1) :
    ∃ y, Gen.spanExpr.denote env row = .s y ∧ env "lb" ≤ y ∧ y ≤ env "ub" :=
  ⟨_, code_span env row, spanRow_mem _ _ row hb hne h⟩

theorem code_span_zeros (env : String → ℝ) (row : List ℝ) (hne : row ≠ []) (h : ∀ v ∈ row, v = 0) :
    Gen.spanExpr.denote env row = .s (env "lb") := by
  rw [code_span, spanRow_zeros _ _ row hne h]

theorem code_span_ones (env : String → ℝ) (row : List ℝ) (hne : row ≠ []) (h : ∀ v ∈ row, v = 1) :
    Gen.spanExpr.denote env row = .s (env "ub") := by
  rw [code_span, spanRow_ones _ _ row hne h]

/-- the translated `span` depends on the row only through its norm, and is monotone in it -/
theorem code_span_mono_norm (env : String → ℝ) (r1 r2 : List ℝ) (hb : env "lb" ≤ env "ub")
    (hl : r1.length = r2.length) (hne : r1 ≠ []) (hn : norm r1 ≤ norm r2) :
    ∃ y1 y2, Gen.spanExpr.denote env r1 = .s y1 ∧ Gen.spanExpr.denote env r2 = .s y2 ∧ y1 ≤ y2 :=
  ⟨_, _, code_span env r1, code_span env r2, spanRow_mono_norm _ _ r1 r2 hb hl hne hn⟩

end Opy
