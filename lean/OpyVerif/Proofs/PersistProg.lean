import OpyVerif.Model.PersistProg
import OpyVerif.Proofs.Lemmas.ListLemmas
/-!
C19 (save / load clause) for any number of histories saved side by side.
-/
namespace Opy

theorem FS.read_write {α : Type} (fs : FS α) (name other : String) (x : α) :
    (fs.write other x).read name = if other = name then some x else fs.read name := assoc_cons ..

/-- a sequence of saves -/
def saveAll {α : Type} (fs : FS α) : List (String × α) → FS α
  | [] => fs
  | (n, x) :: rest => saveAll (fs.write n x) rest

/-- what the last save under `name` wrote (`none` if there was none) -/
def lastSaved {α : Type} (name : String) : List (String × α) → Option α
  | [] => none
  | (n, x) :: rest => match lastSaved name rest with
    | some y => some y
    | none => if n == name then some x else none

/-- **load(name) returns what the last save(name, …) wrote, whatever was saved under other names** -/
theorem read_saveAll {α : Type} (name : String) : ∀ (saves : List (String × α)) (fs : FS α),
    (saveAll fs saves).read name = (lastSaved name saves).or (fs.read name) := by
  intro saves
  induction saves with
  | nil => intro fs; simp [saveAll, lastSaved]
  | cons s rest ih =>
    intro fs
    obtain ⟨n, x⟩ := s
    rw [saveAll, lastSaved, ih, FS.read_write]
    cases lastSaved name rest <;> by_cases hn : n = name <;> simp [hn]

theorem saveProg_run {α : Type} (fs : FS α) (name : String) (a : α) :
    Expected.saveProg.run fs name a = some (fs.write name a) := if_pos (by decide)

theorem loadProg_run {α : Type} (fs : FS α) (name : String) : Expected.loadProg.run fs name = fs.read name :=
  if_pos (by decide)

/-- distinct names never interfere: after saving `a` under `n1` and `b` under `n2 ≠ n1` (in either order, with anything else
    in between under further names), loading `n1` gives `a` -/
theorem load_after_two_saves {α : Type} (fs : FS α) (n1 n2 : String) (a b : α) (h : n1 ≠ n2) :
    ∃ fs1 fs2, Expected.saveProg.run fs n1 a = some fs1 ∧ Expected.saveProg.run fs1 n2 b = some fs2 ∧
      Expected.loadProg.run fs2 n1 = some a ∧ Expected.loadProg.run fs2 n2 = some b := by
  refine ⟨_, _, saveProg_run fs n1 a, saveProg_run _ n2 b, ?_, ?_⟩
  · rw [loadProg_run, FS.read_write, if_neg (Ne.symm h), FS.read_write, if_pos rfl]
  · rw [loadProg_run, FS.read_write, if_pos rfl]

example : (saveAll ([] : FS Nat) [("run.0", 1), ("run.1", 2), ("run.0", 3)]).read "run.0" = some 3 := by decide +kernel
example : (saveAll ([] : FS Nat) [("run.0", 1), ("run.1", 2)]).read "run.1" = some 2 := by decide +kernel

end Opy
