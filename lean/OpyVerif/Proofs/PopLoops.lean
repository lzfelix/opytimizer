import OpyVerif.Proofs.Forest
import OpyVerif.Model.PopLoops
/-!
`GP._mutation` and `GP._crossover` at the level of the population: every run of the loops (as read from the source, see
`Model/PopLoops.lean`) keeps the forest a family of proper, pairwise disjoint expression trees, keeps the number of trees,
and touches only selected slots — for every population, every tournament outcome, every point drawn and every branch
grown.
-/
namespace Opy
open PNode

theorem apply_length {P P' : Pop} (op : GPOp) (h : op.apply P = some P') : P'.trees.length = P.trees.length :=
  (apply_spec op h).2.1

theorem apply_next {P P' : Pop} (op : GPOp) (h : op.apply P = some P') : P'.next = 3 * P.next :=
  (apply_spec op h).1

/-- what `space.grow` returns along the loop: the `k`-th tree is proper and built on identities nobody uses when it is
    grown (every round triples the high-water mark `n`) -/
def GrownFresh (ar : Nat → Nat) (n : Nat) (grown : List PNode) : Prop :=
  ∀ (k : Nat) (g : PNode), grown[k]? = some g → WF ar g ∧ ∀ x ∈ g.ids, 2 * (3 ^ k * n) ≤ x ∧ x < 3 * (3 ^ k * n)

namespace GrownFresh

theorem head {ar : Nat → Nat} {n : Nat} {g : PNode} {gs : List PNode} (h : GrownFresh ar n (g :: gs)) :
    WF ar g ∧ ∀ x ∈ g.ids, 2 * n ≤ x ∧ x < 3 * n := by
  have := h 0 g rfl
  rwa [Nat.pow_zero, Nat.one_mul] at this

theorem tail {ar : Nat → Nat} {n : Nat} {g : PNode} {gs : List PNode} (h : GrownFresh ar n (g :: gs)) :
    GrownFresh ar (3 * n) gs := by
  intro k g' hk
  have := h (k + 1) g' hk
  rwa [Nat.pow_succ, Nat.mul_assoc] at this

end GrownFresh

theorem runMut_steps {ar : Nat → Nat} {S : Nat → Prop} {P P' : Pop} {selected points : List Nat} {grown : List PNode}
    (hS : ∀ s ∈ selected, S s) (hg : GrownFresh ar P.next grown) (h : runMut P selected points grown = some P') :
    Steps ar S P P' := by
  fun_induction runMut P selected points grown
  -- case3: more than one node, `_mutate` with the next point and grown tree; case6: the slot is re-created
  case case1 => cases h; exact .refl _
  case case3 P s ss t _ _ p ps g gs P1 ha ih =>
    have hS := List.forall_mem_cons.1 hS
    exact .step (.mutate s p g) hg.head (List.forall_mem_singleton.2 hS.1) ha (ih hS.2 (apply_next _ ha ▸ hg.tail) h)
  case case6 P s ss points t _ _ g gs P1 ha ih =>
    have hS := List.forall_mem_cons.1 hS
    exact .step (.regrow s g) hg.head (List.forall_mem_singleton.2 hS.1) ha (ih hS.2 (apply_next _ ha ▸ hg.tail) h)
  -- in every other branch the loop raises
  all_goals cases h

theorem runMut_popOK {ar : Nat → Nat} : ∀ (selected : List Nat) (P P' : Pop) (points : List Nat) (grown : List PNode),
    PopOK ar P → 0 < P.next → GrownFresh ar P.next grown → runMut P selected points grown = some P' →
    PopOK ar P' ∧ P'.trees.length = P.trees.length ∧ ∀ i, i ∉ selected → P'.trees[i]? = P.trees[i]? :=
  fun _ _ _ _ _ hP _ hg h =>
    have ⟨a, _, b, c⟩ := (runMut_steps (fun _ hs => hs) hg h).inv hP
    ⟨a, b, c⟩

theorem runCrossPairs_steps {ar : Nat → Nat} {S : Nat → Prop} {P P' : Pop} {pairs draws : List (Nat × Nat)}
    (hS : ∀ q ∈ pairs, S q.1 ∧ S q.2) (h : runCrossPairs P pairs draws = some P') : Steps ar S P P' := by
  fun_induction runCrossPairs P pairs draws
  -- case2: a `cross` step with the next pair of points; case5: a pair with a single-node tree is left alone
  case case1 => cases h; exact .refl _
  case case2 P a b ps f m _ _ _ d ds P1 hc ih =>
    have hS := List.forall_mem_cons.1 hS
    exact .step (.cross a b d.1 d.2) trivial (List.forall_mem_cons.2 ⟨hS.1.1, List.forall_mem_singleton.2 hS.1.2⟩) hc
      (ih hS.2 h)
  case case5 ih => exact ih (List.forall_mem_cons.1 hS).2 h
  all_goals cases h

theorem runCrossPairs_popOK {ar : Nat → Nat} : ∀ (pairs : List (Nat × Nat)) (P P' : Pop) (draws : List (Nat × Nat)),
    PopOK ar P → 0 < P.next → runCrossPairs P pairs draws = some P' →
    PopOK ar P' ∧ P'.trees.length = P.trees.length ∧
      ∀ i, (∀ q ∈ pairs, q.1 ≠ i ∧ q.2 ≠ i) → P'.trees[i]? = P.trees[i]? := by
  intro pairs P P' draws hP _ h
  have ⟨a, _, b, c⟩ := (runCrossPairs_steps (S := fun i => ∃ q ∈ pairs, q.1 = i ∨ q.2 = i)
    (fun q hq => ⟨⟨q, hq, Or.inl rfl⟩, ⟨q, hq, Or.inr rfl⟩⟩) h).inv hP
  exact ⟨a, b, fun i hi => c i (fun ⟨q, hq, e⟩ => e.elim (hi q hq).1 (hi q hq).2)⟩

theorem mutLoop_run (P : Pop) (selected : List Nat) (points : List Nat) (grown : List PNode) :
    Expected.mutLoop.run P selected points grown = runMut P selected points grown :=
  rfl

theorem crossLoop_run (P : Pop) (selected : List Nat) (draws : List (Nat × Nat)) :
    Expected.crossLoop.run P selected draws = runCrossPairs P (pairsOf selected) draws :=
  rfl

/-- **`_mutation` keeps the forest proper, keeps its size and leaves unselected slots alone** -/
theorem mutLoop_popOK {ar : Nat → Nat} (P P' : Pop) (selected : List Nat) (points : List Nat) (grown : List PNode)
    (hP : PopOK ar P) (hn : 0 < P.next) (hg : GrownFresh ar P.next grown)
    (h : Expected.mutLoop.run P selected points grown = some P') :
    PopOK ar P' ∧ P'.trees.length = P.trees.length ∧ ∀ i, i ∉ selected → P'.trees[i]? = P.trees[i]? := by
  rw [mutLoop_run] at h
  exact runMut_popOK selected P P' points grown hP hn hg h

theorem pairsOf_spec : ∀ (l : List Nat), ∃ r, l = (pairsOf l).flatMap (fun p => [p.1, p.2]) ++ r ∧
    r.length = l.length % 2 ∧ 2 * (pairsOf l).length + r.length = l.length
  | [] => ⟨[], rfl, rfl, rfl⟩
  | [a] => ⟨[a], rfl, rfl, rfl⟩
  | a :: b :: rest => by
    obtain ⟨r, h1, h2, h3⟩ := pairsOf_spec rest
    exact ⟨r, congrArg (fun x => a :: b :: x) h1, h2.trans (Nat.add_mod_right _ 2).symm,
      (Nat.add_right_comm _ 2 _).trans (congrArg (· + 2) h3)⟩

theorem mem_pairsOf (l : List Nat) (p : Nat × Nat) (h : p ∈ pairsOf l) : p.1 ∈ l ∧ p.2 ∈ l := by
  obtain ⟨r, h1, _⟩ := pairsOf_spec l
  rw [h1]
  exact ⟨List.mem_append_left _ (List.mem_flatMap.2 ⟨p, h, List.mem_cons_self⟩),
    List.mem_append_left _ (List.mem_flatMap.2 ⟨p, h, List.mem_cons_of_mem _ List.mem_cons_self⟩)⟩

/-- **`_crossover` keeps the forest proper, keeps its size and leaves unselected slots alone** (also when the tournament
    returns the same individual twice in a pair) -/
theorem crossLoop_popOK {ar : Nat → Nat} (P P' : Pop) (selected : List Nat) (draws : List (Nat × Nat))
    (hP : PopOK ar P) (hn : 0 < P.next) (h : Expected.crossLoop.run P selected draws = some P') :
    PopOK ar P' ∧ P'.trees.length = P.trees.length ∧ ∀ i, i ∉ selected → P'.trees[i]? = P.trees[i]? := by
  rw [crossLoop_run] at h
  obtain ⟨a, b, c⟩ := runCrossPairs_popOK _ P P' draws hP hn h
  refine ⟨a, b, fun i hi => c i ?_⟩
  intro q hq
  have := mem_pairsOf selected q hq
  exact ⟨fun e => hi (e ▸ this.1), fun e => hi (e ▸ this.2)⟩

theorem CrossLoop.count_even {r : CrossLoop} (hr : r.roundedUpToEven = true) (n : Nat) : r.count n % 2 = 0 := by
  rw [CrossLoop.count, hr, Bool.true_and]
  rcases Nat.mod_two_eq_zero_or_one n with h | h
  · rw [h]; exact h
  · rw [h, if_pos (by decide), Nat.add_mod, h]

/-- the number of individuals asked of the tournament is even … -/
theorem crossLoop_count_even (n : Nat) : Expected.crossLoop.count n % 2 = 0 :=
  CrossLoop.count_even rfl n

/-- … so `pairwise` uses every selected individual, in order, exactly once -/
theorem pairsOf_flatten : ∀ (l : List Nat), l.length % 2 = 0 → (pairsOf l).flatMap (fun p => [p.1, p.2]) = l := by
  intro l h
  obtain ⟨r, h1, h2, _⟩ := pairsOf_spec l
  rw [List.length_eq_zero_iff.1 (h2.trans h), List.append_nil] at h1
  exact h1.symm

theorem pairsOf_length : ∀ (l : List Nat), l.length % 2 = 0 → 2 * (pairsOf l).length = l.length := by
  intro l h
  obtain ⟨r, _, h2, h3⟩ := pairsOf_spec l
  rwa [h2.trans h] at h3

/-- non-vacuity: on the concrete forest of `Proofs/Forest.lean` both loops run through, with a slot selected twice and a
    pair made of one individual -/
example : ((Expected.crossLoop.run popE [0, 2, 1, 1] [(1, 2), (1, 1)]).map fun P' => (P'.trees.length, P'.next)) = some (3, 99) := by
  decide +kernel
example : ((Expected.mutLoop.run popE [1, 1] [1, 1] [branchE, shift 45 branchE]).map fun P' => (P'.trees.length, P'.next))
    = some (3, 99) := by decide +kernel
example : GrownFresh cfgE.ar popE.next [branchE, shift 45 branchE] := fun
  | 0, _, rfl => ⟨wf_of_wfB (by decide +kernel), by decide +kernel⟩
  | 1, _, rfl => ⟨wf_of_wfB (by decide +kernel), by decide +kernel⟩

end Opy
