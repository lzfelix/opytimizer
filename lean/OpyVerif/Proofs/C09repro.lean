import OpyVerif.Proofs.Lemmas.ReproLemmas
/-!
C09 — `GP._reproduction`: each round overwrites the first arg-max of the working fitness list
by a copy of the selected individual and marks it with fitness 0.

With positive fitness the `k` rounds overwrite `k` distinct individuals, the worst first
(`reproduction_k_worst_of_pos`); with negative fitness the marker 0 *is* the maximum and the
same slot is overwritten again and again (`reproduction_negative_repeats`).
`reproTrace`, `fitTrace`, `FirstMaxOutside` are defined in `Lemmas/ReproLemmas.lean`.
-/
namespace Opy
namespace PNode

/-- `argmaxFirst` is `np.argmax`: the first index of the maximum -/
theorem argmaxFirst_spec (l : List Int) (h : l ≠ []) :
    ∃ hw : argmaxFirst l < l.length,
      (∀ x ∈ l, x ≤ l[argmaxFirst l]) ∧ (∀ j (hj : j < argmaxFirst l), l[j] < l[argmaxFirst l]) :=
  argmaxFirst_eq l h _ rfl

section
variable {α β : Type} (cpT : α → α) (cpA : β → β)

theorem reproStep_lengths (st : List α × List β × List Int) (s : Nat) :
    (reproStep cpT cpA st s).1.length = st.1.length ∧
    (reproStep cpT cpA st s).2.1.length = st.2.1.length ∧
    (reproStep cpT cpA st s).2.2.length = st.2.2.length := by
  obtain ⟨trees, agents, fit⟩ := st
  by_cases hs : s < trees.length ∧ s < agents.length
  · rw [reproStep_eq_of_lt cpT cpA hs.1 hs.2]
    exact ⟨List.length_set, List.length_set, List.length_set⟩
  · rw [reproStep_eq_of_not cpT cpA hs]
    exact ⟨rfl, rfl, rfl⟩

theorem reproduction_lengths (trees : List α) (agents : List β) (fit : List Int)
    (selected : List Nat) :
    (reproduction cpT cpA trees agents fit selected).1.length = trees.length ∧
    (reproduction cpT cpA trees agents fit selected).2.1.length = agents.length ∧
    (reproduction cpT cpA trees agents fit selected).2.2.length = fit.length :=
  reproduction_inv cpT cpA
    (P := fun st => st.1.length = trees.length ∧ st.2.1.length = agents.length ∧ st.2.2.length = fit.length)
    (fun st s hi =>
      ⟨(reproStep_lengths cpT cpA st s).1.trans hi.1, (reproStep_lengths cpT cpA st s).2.1.trans hi.2.1,
        (reproStep_lengths cpT cpA st s).2.2.trans hi.2.2⟩)
    trees agents fit selected ⟨rfl, rfl, rfl⟩

/-- one round, spelled out: with `w` the first arg-max of the working fitness, position `w`
    of the trees / agents holds the copy of entry `s`, `fit[w] = 0`, nothing else changes -/
theorem reproStep_spec (trees : List α) (agents : List β) (fit : List Int) (s : Nat)
    (hs : s < trees.length) (hta : trees.length = agents.length) (htf : trees.length = fit.length) :
    argmaxFirst fit < fit.length ∧
    (reproStep cpT cpA (trees, agents, fit) s).1[argmaxFirst fit]? = some (cpT trees[s]) ∧
    (reproStep cpT cpA (trees, agents, fit) s).2.1[argmaxFirst fit]? = some (cpA (agents[s]'(hta ▸ hs))) ∧
    (reproStep cpT cpA (trees, agents, fit) s).2.2[argmaxFirst fit]? = some 0 ∧
    ∀ i : Nat, i ≠ argmaxFirst fit →
      (reproStep cpT cpA (trees, agents, fit) s).1[i]? = trees[i]? ∧
      (reproStep cpT cpA (trees, agents, fit) s).2.1[i]? = agents[i]? ∧
      (reproStep cpT cpA (trees, agents, fit) s).2.2[i]? = fit[i]? := by
  have hw : argmaxFirst fit < fit.length :=
    (argmaxFirst_spec fit fun h => by rw [h] at htf; exact absurd (htf ▸ hs) (Nat.not_lt_zero _)).1
  rw [reproStep_eq_of_lt cpT cpA hs (hta ▸ hs)]
  exact ⟨hw, List.getElem?_set_self (htf ▸ hw), List.getElem?_set_self (hta ▸ htf ▸ hw),
    List.getElem?_set_self hw, fun i hi =>
      ⟨List.getElem?_set_ne hi.symm, List.getElem?_set_ne hi.symm, List.getElem?_set_ne hi.symm⟩⟩

/-- ghost tags: if copying preserves the tags and tree `i` / agent `i` carry equal tags, they
    still do after one round … -/
theorem reproStep_paired {τ : Type} (tag : α → τ) (tag' : β → τ)
    (hT : ∀ t, tag (cpT t) = tag t) (hA : ∀ a, tag' (cpA a) = tag' a)
    (st : List α × List β × List Int) (s : Nat)
    (h : ∀ i : Nat, (st.1[i]?).map tag = (st.2.1[i]?).map tag') :
    ∀ i : Nat, ((reproStep cpT cpA st s).1[i]?).map tag = ((reproStep cpT cpA st s).2.1[i]?).map tag' := by
  obtain ⟨trees, agents, fit⟩ := st
  by_cases hs : s < trees.length ∧ s < agents.length
  · rw [reproStep_eq_of_lt cpT cpA hs.1 hs.2]
    have hsi : tag (trees[s]'hs.1) = tag' (agents[s]'hs.2) := by
      have := h s
      rwa [List.getElem?_eq_getElem hs.1, List.getElem?_eq_getElem hs.2, Option.map_some,
        Option.map_some, Option.some.injEq] at this
    -- pairing says the two tag lists are equal, and `set` commutes with `map`
    have hm : trees.map tag = agents.map tag' :=
      List.ext_getElem? (fun i => by rw [List.getElem?_map, List.getElem?_map]; exact h i)
    intro i
    dsimp only
    rw [← List.getElem?_map, ← List.getElem?_map, List.map_set, List.map_set, hm, hT, hA, hsi]
  · rw [reproStep_eq_of_not cpT cpA hs]; exact h

/-- … and after the whole loop: tree `i` and agent `i` stay paired -/
theorem reproduction_paired {τ : Type} (tag : α → τ) (tag' : β → τ)
    (hT : ∀ t, tag (cpT t) = tag t) (hA : ∀ a, tag' (cpA a) = tag' a)
    (trees : List α) (agents : List β) (fit : List Int) (selected : List Nat)
    (h : ∀ i : Nat, (trees[i]?).map tag = (agents[i]?).map tag') :
    ∀ i : Nat, ((reproduction cpT cpA trees agents fit selected).1[i]?).map tag =
         ((reproduction cpT cpA trees agents fit selected).2.1[i]?).map tag' :=
  reproduction_inv cpT cpA (P := fun st => ∀ i : Nat, (st.1[i]?).map tag = (st.2.1[i]?).map tag')
    (reproStep_paired cpT cpA tag tag' hT hA) trees agents fit selected h

/-- `reproTrace` really lists the overwritten positions: its head is the first arg-max of the
    current working fitness, its tail the trace of the remaining rounds from the updated state -/
theorem reproTrace_cons (trees : List α) (agents : List β) (fit : List Int) (s : Nat)
    (ss : List Nat) (hs : s < trees.length) (hs' : s < agents.length) :
    reproTrace cpT cpA (trees, agents, fit) (s :: ss) =
      argmaxFirst fit :: reproTrace cpT cpA (reproStep cpT cpA (trees, agents, fit) s) ss :=
  reproTrace_cons_of_lt cpT cpA ss hs hs'

/-- the trace is faithful to `reproduction` (no hypothesis): the final working fitness is the
    original one with exactly the traced positions set to the marker 0 -/
theorem reproduction_fit_final (trees : List α) (agents : List β) (fit : List Int)
    (selected : List Nat) (i : Nat) :
    (reproduction cpT cpA trees agents fit selected).2.2[i]? =
      if i ∈ reproTrace cpT cpA (trees, agents, fit) selected then (fit[i]?).map (fun _ => 0)
      else fit[i]? := by
  unfold reproduction
  rw [reproduction_fit_foldl cpT cpA selected (trees, agents, fit), foldl_set_zero_getElem?]

/-- **positive fitness**: `k = selected.length ≤ n` rounds overwrite `k` *distinct* positions,
    and round `j` overwrites the first position holding the maximum of the original fitness
    over the positions not overwritten before — the worst individuals, worst first.
    Fitnesses need not be distinct; a selected index may itself have been overwritten earlier
    (nothing is said about *what* is copied, only *where*). -/
theorem reproduction_k_worst_of_pos (trees : List α) (agents : List β) (fit : List Int)
    (selected : List Nat) (hta : trees.length = agents.length)
    (hsel : ∀ s ∈ selected, s < trees.length) (hpos : ∀ x ∈ fit, 0 < x)
    (hlen : selected.length ≤ fit.length) :
    (reproTrace cpT cpA (trees, agents, fit) selected).length = selected.length ∧
    (reproTrace cpT cpA (trees, agents, fit) selected).Nodup ∧
    ∀ j (hj : j < (reproTrace cpT cpA (trees, agents, fit) selected).length),
      FirstMaxOutside fit ((reproTrace cpT cpA (trees, agents, fit) selected).take j)
        (reproTrace cpT cpA (trees, agents, fit) selected)[j] :=
  reproTrace_spec cpT cpA trees agents fit selected hta hsel
    (by rw [List.countP_eq_length.2 fun x hx => decide_eq_true (hpos x hx)]; exact hlen)

/-- worst first: the original fitnesses of the overwritten positions are non-increasing -/
theorem reproduction_worst_first (trees : List α) (agents : List β) (fit : List Int)
    (selected : List Nat) (hta : trees.length = agents.length)
    (hsel : ∀ s ∈ selected, s < trees.length) (hpos : ∀ x ∈ fit, 0 < x)
    (hlen : selected.length ≤ fit.length) :
    ((reproTrace cpT cpA (trees, agents, fit) selected).map (fun w => fit[w]!)).Pairwise
      (fun a b => b ≤ a) := by
  obtain ⟨_, hnd, hP⟩ := reproduction_k_worst_of_pos cpT cpA trees agents fit selected hta hsel hpos hlen
  generalize reproTrace cpT cpA (trees, agents, fit) selected = tr at hnd hP
  rw [List.pairwise_map, List.pairwise_iff_getElem]
  intro i j hi hj hij
  obtain ⟨_, hwi, hmax, _⟩ := hP i hi
  obtain ⟨_, hwj, _, _⟩ := hP j hj
  rw [getElem!_pos fit _ hwj, getElem!_pos fit _ hwi]
  apply hmax _ hwj
  intro hmem
  obtain ⟨m, hm, hmj⟩ := List.mem_take_iff_getElem.1 hmem
  have hm' := Nat.lt_min.1 hm
  exact List.pairwise_iff_getElem.1 hnd m j hm'.2 hj (Nat.lt_trans hm'.1 hij) hmj

end

/-- **negative fitness** (finding K12): the marker 0 is the maximum, so the second round
    overwrites the slot the first round just filled — one worst individual is replaced twice,
    the second worst never -/
theorem reproduction_negative_repeats :
    reproTrace id id ([10, 11, 12, 13], [20, 21, 22, 23], [-4, -3, -2, -1]) [0, 1] = [3, 3] := by
  decide +kernel

/-- positive fitness, ties included: slots 1 (first 9), 3 (second 9), 0 -/
example : reproTrace id id ([10, 11, 12, 13], [20, 21, 22, 23], [5, 9, 2, 9]) [2, 2, 1] = [1, 3, 0] := by
  decide +kernel
/-- the third round selects slot 1, already overwritten: the copy is of the new content -/
example : reproduction (· + 100) (· + 100) [10, 11, 12, 13] [20, 21, 22, 23] [5, 9, 2, 9] [2, 2, 1] =
    ([212, 112, 12, 112], [222, 122, 22, 122], [0, 0, 2, 0]) := by decide +kernel
example : reproduction id id [10, 11, 12, 13] [20, 21, 22, 23] [-4, -3, -2, -1] [0, 1] =
    ([10, 11, 12, 11], [20, 21, 22, 21], [-4, -3, -2, 0]) := by decide +kernel
example : argmaxFirst [3, 7, 7, 1] = 1 ∧ argmaxFirst [-4, -3, -2, 0] = 3 := by decide +kernel

end PNode
end Opy

#print axioms Opy.PNode.argmaxFirst_spec
#print axioms Opy.PNode.reproStep_lengths
#print axioms Opy.PNode.reproduction_lengths
#print axioms Opy.PNode.reproStep_spec
#print axioms Opy.PNode.reproStep_paired
#print axioms Opy.PNode.reproduction_paired
#print axioms Opy.PNode.reproTrace_cons
#print axioms Opy.PNode.reproduction_fit_final
#print axioms Opy.PNode.reproduction_k_worst_of_pos
#print axioms Opy.PNode.reproduction_worst_first
#print axioms Opy.PNode.reproduction_negative_repeats
