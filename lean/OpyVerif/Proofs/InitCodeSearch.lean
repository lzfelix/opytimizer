import OpyVerif.Proofs.InitProg
import OpyVerif.Generated.Init.searchInit_eq
import OpyVerif.Generated.Init.treeInit_eq
/-!
C06 (construction clause) about the *translated* `_initialize_agents` methods.
-/
namespace Opy

/-- search spaces, as translated on this run: draws inside the intervals the loop asks for give agents inside the declared
    box, each carrying the declared bounds (which its own `check_limits` then leaves alone) -/
theorem code_searchInit (lbs ubs : List Int) (v : Nat) (draws : List Pos) (h : lbs.length = ubs.length)
    (hd : ∀ p ∈ draws, InBox lbs ubs p) :
    ∃ agents, Gen.searchInit.run lbs ubs v draws = some agents ∧ Gen.searchInit.ranges lbs ubs v = List.zip lbs ubs ∧
      ∀ a ∈ agents, InBox lbs ubs a.pos ∧ a.lb = lbs ∧ a.ub = ubs ∧ clipPos a.lb a.ub a.pos = a.pos := by
  rw [Gen.searchInit_eq]; exact searchInit_spec lbs ubs v draws h hd

/-- tree spaces initialise their agents by the same loop -/
theorem code_treeInit (lbs ubs : List Int) (v : Nat) (draws : List Pos) (h : lbs.length = ubs.length)
    (hd : ∀ p ∈ draws, InBox lbs ubs p) :
    ∃ agents, Gen.treeInit.run lbs ubs v draws = some agents ∧
      ∀ a ∈ agents, InBox lbs ubs a.pos ∧ a.lb = lbs ∧ a.ub = ubs := by
  rw [Gen.treeInit_eq]
  exact ⟨_, searchInit_is_initSearch lbs ubs v draws h, initSearch_feasible lbs ubs draws hd⟩

end Opy
