import OpyVerif.Proofs.BfsProg
import OpyVerif.Proofs.C11
import OpyVerif.Generated.Props
/-!
C11 (measurement clause) about the *translated* `_properties`.
-/
namespace Opy
open PNode

/-- C11, first clause, for the code as translated on this run: `min_depth`, `max_depth`, `n_leaves`, `n_nodes` are the
    smallest and largest leaf depth, the number of childless nodes and the number of nodes, for every tree -/
theorem code_properties (t : PNode) (h : t ≠ nil) :
    Gen.bfsProg.run t = ⟨t.minD, (t.maxD : Int), t.leaves, t.size⟩ := by
  rw [Gen.bfsProg_eq, bfsProg_is_properties t h]; exact properties_eq t h

end Opy
