import OpyVerif.Proofs.C17
import OpyVerif.Proofs.Formulas
import OpyVerif.Generated.FormulasC17
/-!
C17 stated about the *translated source*: `benchCode name xs` is the NumPy meaning (over `ℝ`) of the
body of `benchmark.<name>` as `harness/translate_formulas.py` read it from the current working tree
(`Generated/FormulasDefs.lean`).  Each theorem composes three facts: the regenerated equality
"source = expected expression" (`Generated/FormulasC17.lean`, re-decided on every build), the
denotation theorem of `Proofs/Formulas.lean` (expected expression = model, all inputs), and the
real-number theorem of `Proofs/C17.lean` about the model.  A change to a benchmark body therefore
breaks the first link and with it every theorem below that mentions the function.
-/
namespace Opy

/-- the value of `benchmark.<name>` at `xs`, as the current source defines it -/
noncomputable def benchCode (name : String) (xs : List ℝ) : Option (FVal ℝ) :=
  (Gen.benchExprs.lookup name).map (·.denote (fun _ => 0) xs)

theorem code_ackley1 (xs : List ℝ) : benchCode "ackley1" xs = some (.s (ackley1 xs)) := by
  unfold benchCode; rw [Gen.bench_ackley1_eq]; exact d_ackley1 _ xs

theorem code_alpine1 (xs : List ℝ) : benchCode "alpine1" xs = some (.s (alpine1 xs)) := by
  unfold benchCode; rw [Gen.bench_alpine1_eq]; exact d_alpine1 _ xs

theorem code_alpine2 (xs : List ℝ) : benchCode "alpine2" xs = some (.s (alpine2 xs)) := by
  unfold benchCode; rw [Gen.bench_alpine2_eq]; exact d_alpine2 _ xs

theorem code_brown (xs : List ℝ) : benchCode "brown" xs = some (.s (brown xs)) := by
  unfold benchCode; rw [Gen.bench_brown_eq]; exact d_brown _ xs

theorem code_chung_reynolds (xs : List ℝ) : benchCode "chung_reynolds" xs = some (.s (chung_reynolds xs)) := by
  unfold benchCode; rw [Gen.bench_chung_reynolds_eq]; exact d_chung_reynolds _ xs

theorem code_cosine_mixture (xs : List ℝ) : benchCode "cosine_mixture" xs = some (.s (cosine_mixture xs)) := by
  unfold benchCode; rw [Gen.bench_cosine_mixture_eq]; exact d_cosine_mixture _ xs

theorem code_csendes (xs : List ℝ) : benchCode "csendes" xs = some (.s (csendes xs)) := by
  unfold benchCode; rw [Gen.bench_csendes_eq]; exact d_csendes _ xs

theorem code_deb1 (xs : List ℝ) : benchCode "deb1" xs = some (.s (deb1 xs)) := by
  unfold benchCode; rw [Gen.bench_deb1_eq]; exact d_deb1 _ xs

theorem code_deb2 (xs : List ℝ) : benchCode "deb2" xs = some (.s (deb2 xs)) := by
  unfold benchCode; rw [Gen.bench_deb2_eq]; exact d_deb2 _ xs

theorem code_exponential (xs : List ℝ) : benchCode "exponential" xs = some (.s (exponential xs)) := by
  unfold benchCode; rw [Gen.bench_exponential_eq]; exact d_exponential _ xs

theorem code_quintic (xs : List ℝ) : benchCode "quintic" xs = some (.s (quintic xs)) := by
  unfold benchCode; rw [Gen.bench_quintic_eq]; exact d_quintic _ xs

theorem code_rastringin (xs : List ℝ) : benchCode "rastringin" xs = some (.s (rastringin xs)) := by
  unfold benchCode; rw [Gen.bench_rastringin_eq]; exact d_rastringin _ xs

theorem code_salomon (xs : List ℝ) : benchCode "salomon" xs = some (.s (salomon xs)) := by
  unfold benchCode; rw [Gen.bench_salomon_eq]; exact d_salomon _ xs

theorem code_schumer_steiglitz (xs : List ℝ) : benchCode "schumer_steiglitz" xs = some (.s (schumer_steiglitz xs)) := by
  unfold benchCode; rw [Gen.bench_schumer_steiglitz_eq]; exact d_schumer_steiglitz _ xs

theorem code_schwefel (xs : List ℝ) : benchCode "schwefel" xs = some (.s (schwefel xs)) := by
  unfold benchCode; rw [Gen.bench_schwefel_eq]; exact d_schwefel _ xs

theorem code_sphere (xs : List ℝ) : benchCode "sphere" xs = some (.s (sphere xs)) := by
  unfold benchCode; rw [Gen.bench_sphere_eq]; exact d_sphere _ xs

theorem code_styblinski_tang (xs : List ℝ) : benchCode "styblinski_tang" xs = some (.s (styblinski_tang xs)) := by
  unfold benchCode; rw [Gen.bench_styblinski_tang_eq]; exact d_styblinski_tang _ xs

theorem code_sphere_lower_bound (xs : List ℝ) :
    ∃ y, benchCode "sphere" xs = some (.s y) ∧ 0 ≤ y :=
  ⟨_, code_sphere xs, sphere_lower_bound xs⟩

theorem code_sphere_at_minimiser (n : ℕ) :
    benchCode "sphere" (List.replicate n (0 : ℝ)) = some (.s (0)) := by
  rw [code_sphere, sphere_at_minimiser n]

theorem code_chung_reynolds_lower_bound (xs : List ℝ) :
    ∃ y, benchCode "chung_reynolds" xs = some (.s y) ∧ 0 ≤ y :=
  ⟨_, code_chung_reynolds xs, chung_reynolds_lower_bound xs⟩

theorem code_chung_reynolds_at_minimiser (n : ℕ) :
    benchCode "chung_reynolds" (List.replicate n (0 : ℝ)) = some (.s (0)) := by
  rw [code_chung_reynolds, chung_reynolds_at_minimiser n]

theorem code_schumer_steiglitz_lower_bound (xs : List ℝ) :
    ∃ y, benchCode "schumer_steiglitz" xs = some (.s y) ∧ 0 ≤ y :=
  ⟨_, code_schumer_steiglitz xs, schumer_steiglitz_lower_bound xs⟩

theorem code_schumer_steiglitz_at_minimiser (n : ℕ) :
    benchCode "schumer_steiglitz" (List.replicate n (0 : ℝ)) = some (.s (0)) := by
  rw [code_schumer_steiglitz, schumer_steiglitz_at_minimiser n]

theorem code_rastringin_lower_bound (xs : List ℝ) :
    ∃ y, benchCode "rastringin" xs = some (.s y) ∧ 0 ≤ y :=
  ⟨_, code_rastringin xs, rastringin_lower_bound xs⟩

theorem code_rastringin_at_minimiser (n : ℕ) :
    benchCode "rastringin" (List.replicate n (0 : ℝ)) = some (.s (0)) := by
  rw [code_rastringin, rastringin_at_minimiser n]

theorem code_alpine1_lower_bound (xs : List ℝ) :
    ∃ y, benchCode "alpine1" xs = some (.s y) ∧ 0 ≤ y :=
  ⟨_, code_alpine1 xs, alpine1_lower_bound xs⟩

theorem code_alpine1_at_minimiser (n : ℕ) :
    benchCode "alpine1" (List.replicate n (0 : ℝ)) = some (.s (0)) := by
  rw [code_alpine1, alpine1_at_minimiser n]

theorem code_salomon_lower_bound (xs : List ℝ) :
    ∃ y, benchCode "salomon" xs = some (.s y) ∧ 0 ≤ y :=
  ⟨_, code_salomon xs, salomon_lower_bound xs⟩

theorem code_salomon_at_minimiser (n : ℕ) :
    benchCode "salomon" (List.replicate n (0 : ℝ)) = some (.s (0)) := by
  rw [code_salomon, salomon_at_minimiser n]

theorem code_brown_lower_bound (xs : List ℝ) :
    ∃ y, benchCode "brown" xs = some (.s y) ∧ 0 ≤ y :=
  ⟨_, code_brown xs, brown_lower_bound xs⟩

theorem code_brown_at_minimiser (n : ℕ) :
    benchCode "brown" (List.replicate n (0 : ℝ)) = some (.s (0)) := by
  rw [code_brown, brown_at_minimiser n]

theorem code_exponential_lower_bound (xs : List ℝ) :
    ∃ y, benchCode "exponential" xs = some (.s y) ∧ -1 ≤ y :=
  ⟨_, code_exponential xs, exponential_lower_bound xs⟩

theorem code_exponential_at_minimiser (n : ℕ) :
    benchCode "exponential" (List.replicate n (0 : ℝ)) = some (.s (-1)) := by
  rw [code_exponential, exponential_at_minimiser n]

theorem code_ackley1_lower_bound (xs : List ℝ) (hn : 1 ≤ xs.length) :
    ∃ y, benchCode "ackley1" xs = some (.s y) ∧ 0 ≤ y :=
  ⟨_, code_ackley1 xs, ackley1_lower_bound xs hn⟩

theorem code_ackley1_at_minimiser (n : ℕ) (hn : 1 ≤ n) :
    benchCode "ackley1" (List.replicate n (0 : ℝ)) = some (.s (0)) := by
  rw [code_ackley1, ackley1_at_minimiser n hn]

theorem code_quintic_lower_bound (xs : List ℝ) :
    ∃ y, benchCode "quintic" xs = some (.s y) ∧ 0 ≤ y :=
  ⟨_, code_quintic xs, quintic_lower_bound xs⟩

theorem code_quintic_at_minimiser (n : ℕ) :
    benchCode "quintic" (List.replicate n (-1 : ℝ)) = some (.s 0) ∧
    benchCode "quintic" (List.replicate n (2 : ℝ)) = some (.s 0) := by
  rw [code_quintic, code_quintic, (quintic_at_minimiser n).1, (quintic_at_minimiser n).2]; exact ⟨rfl, rfl⟩

theorem code_deb1_lower_bound (xs : List ℝ) (hn : 1 ≤ xs.length) :
    ∃ y, benchCode "deb1" xs = some (.s y) ∧ -1 ≤ y :=
  ⟨_, code_deb1 xs, deb1_lower_bound xs hn⟩

theorem code_deb1_at_minimiser (n : ℕ) (hn : 1 ≤ n) :
    benchCode "deb1" (List.replicate n (0.1 : ℝ)) = some (.s (-1)) := by
  rw [code_deb1, deb1_at_minimiser n hn]

theorem code_csendes_lower_bound (xs : List ℝ) (hx : ∀ v ∈ xs, v ≠ 0) :
    ∃ y, benchCode "csendes" xs = some (.s y) ∧ 0 ≤ y :=
  ⟨_, code_csendes xs, csendes_lower_bound xs hx⟩

theorem code_deb2_lower_bound (xs : List ℝ) (hn : 1 ≤ xs.length) (hx : ∀ v ∈ xs, 0 ≤ v) :
    ∃ y, benchCode "deb2" xs = some (.s y) ∧ -1 ≤ y :=
  ⟨_, code_deb2 xs, deb2_lower_bound xs hn hx⟩

theorem code_deb2_at_minimiser (n : ℕ) (hn : 1 ≤ n) :
    benchCode "deb2" (List.replicate n ((0.15 : ℝ) ^ (4 / 3 : ℝ))) = some (.s (-1)) := by
  rw [code_deb2, deb2_at_minimiser n hn]

/-- non-vacuity: the translated `sphere` at a concrete point -/
example : benchCode "sphere" [1, 2] = some (.s 5) := by
  rw [code_sphere, sphere_closed_form]; norm_num

end Opy
