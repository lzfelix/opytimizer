import OpyVerif.Proofs.SweepProg
import OpyVerif.Generated.Sweeps.genericSweep_eq
/-!
The machine's sweep rule is what the *translated* `Optimizer._evaluate` does: `Gen.genericSweep` is read from the current
working tree; some tie flag makes its loop body equal to `sweepAgent` / `takes` / `bestOf` of `Model/Machine` — the rule
every C02 / C03 / C20 machine theorem is about.  (One module per translated sweep: an unreadable rewrite of one `_evaluate`
leaves the statements about the other two standing.)
-/
namespace Opy

theorem code_genericSweep (cfg : Cfg) (hs : cfg.swarm = false) (a best : Ag) (v : Int) (fresh : Nat) (tp : Pos) :
    ∃ tie, Gen.genericSweep.body cfg.lbs cfg.ubs tp v fresh a best =
      (sweepAgent cfg a v, if takes best (sweepAgent cfg a v) tie then bestOf (sweepAgent cfg a v) fresh else best) := by
  rcases Gen.genericSweep_eq with h | h <;> rw [h]
  · exact ⟨false, genericSweep_is_machine_rule cfg hs a best v fresh tp⟩
  · exact ⟨true, genericSweepLe_is_machine_rule cfg hs a best v fresh tp⟩

end Opy
