import OpyVerif.Proofs.TaskTrial
/-!
The swarm family (PSO, AIWPSO, RPSO) at the level of a whole task.  Their sweep (`PSO._evaluate`, the machine rule with
`swarm = true`) keeps, per particle, the best value seen and the position it was seen at (`agent.fit`, `local_position[i]` —
`Ag.fit`, `Ag.tpos`); their updates move particles and velocities and leave that memory alone.  That last fact is the one
assumption about the oracles (`KeepsMemory`).  Theorems, for every iteration count, objective and oracle: from the first sweep
on every particle's stored fitness is the objective at its stored personal-best position (**C20**, truthful records of the
swarm family), and from record to record no particle's fitness increases.
-/
namespace Opy
namespace Task

/-- the personal-best memory of a population: (position it was seen at, value), in population order -/
def memory (pop : List Ag) : List (Pos × Int) := pop.map fun a => (a.tpos, a.fit)

/-- updates, hooks and post steps leave every particle's personal-best memory alone -/
structure KeepsMemory (o : TaskOracle) : Prop where
  upd : ∀ k st, memory (o.upd k st).1 = memory st.1
  hook : ∀ k st, memory (o.hook k st).1 = memory st.1
  post : ∀ k st, memory (o.post k st).1 = memory st.1

theorem memory_fits (pop pop' : List Ag) (h : memory pop' = memory pop) : pop'.map (·.fit) = pop.map (·.fit) := by
  have := congrArg (List.map Prod.snd) h
  simpa [memory, List.map_map, Function.comp_def] using this

theorem memory_mem (pop pop' : List Ag) (h : memory pop' = memory pop) :
    ∀ a' ∈ pop', ∃ a ∈ pop, a.tpos = a'.tpos ∧ a.fit = a'.fit := by
  intro a' ha'
  have : (a'.tpos, a'.fit) ∈ memory pop' := List.mem_map.mpr ⟨a', ha', rfl⟩
  rw [h] at this
  obtain ⟨a, ha, he⟩ := List.mem_map.mp this
  simp only [Prod.mk.injEq] at he
  exact ⟨a, ha, he.1, he.2⟩

theorem leAll_map (g : Ag → Ag) (pop : List Ag) (h : ∀ a ∈ pop, (g a).fit ≤ a.fit) :
    LeAll ((pop.map g).map (·.fit)) (pop.map (·.fit)) := by
  induction pop with
  | nil => trivial
  | cons a as ih =>
    exact ⟨h a List.mem_cons_self, ih (fun x hx => h x (List.mem_cons_of_mem _ hx))⟩

theorem leAll_of_eq {xs ys : List Int} (h : xs = ys) : LeAll xs ys := by rw [h]; exact leAll_refl _

section
variable (p : TaskProg) (lbs ubs : List Int) (o : TaskOracle)

/-- what holds of a swarm task from its first sweep on -/
structure SwInv (o : TaskOracle) (s : TaskSt) : Prop where
  /-- the stored fitness is the objective at the stored personal-best position -/
  truthful : ∀ a ∈ s.pop, a.fit = o.f a.tpos
  below : ∀ d ∈ s.dumps, LeAll (s.pop.map (·.fit)) (d.1.map (·.2))
  chain : s.dumps.Pairwise (fun d d' => LeAll (d'.1.map (·.2)) (d.1.map (·.2)))

theorem SwInv.of_memory {o : TaskOracle} {s s' : TaskSt} (h : SwInv o s) (hm : memory s'.pop = memory s.pop)
    (hd : s'.dumps = s.dumps) : SwInv o s' := by
  refine ⟨fun a' ha' => ?_, fun d hd' => ?_, hd ▸ h.chain⟩
  · obtain ⟨a, ha, e1, e2⟩ := memory_mem s.pop s'.pop hm a' ha'
    rw [← e1, ← e2]; exact h.truthful a ha
  · rw [memory_fits s.pop s'.pop hm]; exact h.below d (hd ▸ hd')

theorem swInv_execEv (hr : IsRule p.sweep true) (hm : KeepsMemory o) (s : TaskSt) (ev : SEv) (h : SwInv o s) :
    SwInv o (p.execEv lbs ubs o s ev) := by
  cases ev with
  | update => exact h.of_memory (hm.upd s.k (s.pop, s.best)) rfl
  | hook => exact h.of_memory (hm.hook s.k (s.pop, s.best)) rfl
  | post => exact h.of_memory (hm.post s.k (s.pop, s.best)) rfl
  | clipAll => exact h.of_memory (by simp [TaskProg.execEv, memory, List.map_map, Function.comp_def]) rfl
  | sweep =>
    obtain ⟨h1, h2, h3⟩ := h
    have e : (p.execEv lbs ubs o s .sweep).pop = s.pop.map fun a => sweepAgent ⟨0, true, lbs, ubs⟩ a (o.f a.pos) :=
      sweepPop_pop p.sweep true hr lbs ubs o.f _ _ _
    refine ⟨?_, fun d hd => ?_, h3⟩ <;> rw [e]
    · -- a particle takes the value at the position it stands at, or keeps its memory
      refine List.forall_mem_map.mpr fun x hx => ?_
      rcases sweepAgent_cases ⟨0, true, lbs, ubs⟩ x (o.f x.pos) with ⟨h', _⟩ | ⟨_, h', _⟩ <;> rw [h']
      exact h1 x hx
    · exact leAll_trans (leAll_map _ s.pop fun a _ => sweepAgent_fit_le ⟨0, true, lbs, ubs⟩ a (o.f a.pos) rfl) (h2 d hd)
  | dump =>
    have hp := Chain.push leAll_refl ⟨h.below, h.chain⟩ (s.pop.map record, record s.best) (record_fits s.pop)
    exact ⟨h.truthful, hp.1, hp.2⟩

/-- **C20 for the swarm family, task level.**  Particles start with the sentinel fitness, above every value of the objective
    (K6 is the excluded point).  For every number of iterations, every objective and every oracle that leaves the personal-best
    memory alone: from the first sweep on every particle's stored fitness is the objective at its stored personal-best
    position, every later recorded fitness vector is point-wise at most every earlier one. -/
theorem task_swarm (hg : Good true p.skel = true) (hr : IsRule p.sweep true) (hm : KeepsMemory o)
    (pop : List Ag) (best : Ag) (h0 : ∀ a ∈ pop, ∀ x, o.f x < a.fit) (N : Nat) :
    SwInv o (p.runTask lbs ubs o (TaskSt.start pop best) N) := by
  refine runTask_inv p lbs ubs o hg (SwInv o) (fun ev s => swInv_execEv p lbs ubs o hr hm s ev) _
    ⟨fun a ha => ?_, List.forall_mem_nil _, List.Pairwise.nil⟩ N
  simp only [TaskProg.execEv, TaskSt.start, sweepPop_pop p.sweep true hr] at ha
  obtain ⟨x, hx, rfl⟩ := List.mem_map.mp ha
  -- every particle improves on the sentinel at its first evaluation
  obtain ⟨y, hy, _, e2⟩ := memory_mem pop _ (hm.hook 0 (pop, best)) x hx
  have hlt : o.f x.pos < x.fit := by rw [← e2]; exact h0 y hy x.pos
  simp [sweepAgent, hlt]

end

end Task
end Opy
