import OpyVerif.Proofs.TaskRunCodeSkel
import OpyVerif.Proofs.ClipProg
import OpyVerif.Generated.ClipLoops.searchClip_eq
import OpyVerif.Generated.ClipLoops.hyperClip_eq
/-!
The task theorems that need the regenerated skeletons and `check_limits` loops (C01, C13): every sweep evaluates inside the box,
whatever the sweep's loop body is.
-/
namespace Opy
open Opy.Task

theorem code_searchClip_runPos (lbs ubs : List Int) (pos : Pos) : Gen.searchClip.runPos lbs ubs pos = clipPos lbs ubs pos := by
  rw [Gen.searchClip_eq]
  exact agentClip_run lbs ubs pos

theorem code_hyperClip_runPos (lbs ubs : List Int) (pos : Pos) :
    Gen.hyperClip.runPos lbs ubs pos = clipHyper (min lbs.length ubs.length) pos := by
  rw [Gen.hyperClip_eq]
  exact hyperClip_runPos lbs ubs pos

/-- `SearchSpace.check_limits`, as translated, projects every position of the declared row count into the declared box -/
theorem code_searchClip_clipsInto (lbs ubs : List Int) (hb : BoundsOk lbs ubs) : ClipsInto Gen.searchClip lbs ubs lbs ubs := by
  intro pos hl
  rw [code_searchClip_runPos]
  exact clipPos_inBox lbs ubs pos hb hl.symm

/-- `HyperSpace.check_limits`, as translated, projects into the unit box whatever the declared bounds are -/
theorem code_hyperClip_clipsInto (lbs ubs : List Int) (hl : lbs.length = ubs.length) :
    ClipsInto Gen.hyperClip lbs ubs (List.replicate lbs.length keyZero) (List.replicate lbs.length keyOne) := by
  intro pos hp
  rw [code_hyperClip_runPos, ← hl, Nat.min_self, ← hp]
  exact clipHyper_inUnitBox pos

section
variable (sk : Skeleton) (hsk : sk ∈ Gen.taskSkeletons) (sw : SweepLoop)
include hsk

/-- **C01 (search spaces).**  Every position a sweep of any of the sixteen optimisers hands to the objective lies in the
    declared box: for every box with `lb ≤ ub`, objective, update arithmetic, feasible-keeping hook and iteration count. -/
theorem code_task_evals_inBox (lbs ubs : List Int) (hb : BoundsOk lbs ubs) (o : TaskOracle)
    (ho : OracleOK lbs.length lbs ubs o) (pop : List Ag) (best : Ag) (h0 : ∀ a ∈ pop, InBox lbs ubs a.pos) (N : Nat) :
    ∀ e ∈ (TaskProg.runTask ⟨sk, Gen.searchClip, sw⟩ lbs ubs o (TaskSt.start pop best) N).evals, InBox lbs ubs e.1 :=
  task_evals_inBox ⟨sk, Gen.searchClip, sw⟩ lbs ubs o (code_taskSkeletons_good sk hsk) lbs ubs
    (code_searchClip_clipsInto lbs ubs hb) ho pop best h0 N

/-- **C01 / C13 (hypercomplex spaces).**  … lies in the unit box, whatever bounds were declared. -/
theorem code_task_evals_inUnitBox (lbs ubs : List Int) (hl : lbs.length = ubs.length) (o : TaskOracle)
    (ho : OracleOK lbs.length (List.replicate lbs.length keyZero) (List.replicate lbs.length keyOne) o)
    (pop : List Ag) (best : Ag)
    (h0 : ∀ a ∈ pop, InBox (List.replicate lbs.length keyZero) (List.replicate lbs.length keyOne) a.pos) (N : Nat) :
    ∀ e ∈ (TaskProg.runTask ⟨sk, Gen.hyperClip, sw⟩ lbs ubs o (TaskSt.start pop best) N).evals,
      InBox (List.replicate lbs.length keyZero) (List.replicate lbs.length keyOne) e.1 :=
  task_evals_inBox ⟨sk, Gen.hyperClip, sw⟩ lbs ubs o (code_taskSkeletons_good sk hsk) _ _
    (code_hyperClip_clipsInto lbs ubs hl) ho pop best h0 N

end

end Opy
