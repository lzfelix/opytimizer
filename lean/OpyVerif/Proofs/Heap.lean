import OpyVerif.Model.Heap
import OpyVerif.Proofs.C08ops
/-!
Heap-level semantics of the tree operators: the field writes of `GP._mutate` / `GP._cross` on the objects of the
(copied) parents leave exactly the trees `PNode.mutate` / `PNode.cross` describe.  Core Lean only.
-/
namespace Opy
open PNode

/-- every node of `t` is an object of `h` whose fields are what the tree says -/
def Rep (h : Heap) : PNode → Prop
  | nil => True
  | mk i lb p f l r => h i = some ⟨lb, p, f, l.id?, r.id?⟩ ∧ Rep h l ∧ Rep h r

/-- `node.<side> = b; b.flag = side; b.parent = node` on the heap, `pid` the object of `node`, `br` that of `b` -/
def Heap.link (h : Heap) (pid : Nat) (side : Bool) (br : Nat) : Heap := fun j =>
  if j = br then (h br).map fun c => { c with flag := side, par := some pid }
  else if j = pid then (h pid).map fun c => if side then { c with left := some br } else { c with right := some br }
  else h j

theorem rep_congr {h h' : Heap} : ∀ (t : PNode), (∀ j ∈ t.ids, h' j = h j) → Rep h t → Rep h' t := by
  intro t
  induction t with
  | nil => intro _ _; trivial
  | mk i lb p f l r ihl ihr =>
    intro hag hr
    obtain ⟨h1, h2, h3⟩ := hr
    refine ⟨?_, ihl (fun j hj => hag j (by simp [ids, hj])) h2, ihr (fun j hj => hag j (by simp [ids, hj])) h3⟩
    rw [hag i (by simp [ids])]; exact h1

theorem rep_toTree {h : Heap} : ∀ (t : PNode) (fuel : Nat), Rep h t → t.size ≤ fuel → toTree h fuel t.id? = t := by
  intro t
  induction t with
  | nil => intro fuel _ _; cases fuel <;> rfl
  | mk i lb p f l r ihl ihr =>
    intro fuel hr hs
    obtain ⟨h1, h2, h3⟩ := hr
    cases fuel with
    | zero => simp [size] at hs
    | succ k =>
      have hk : l.size + r.size ≤ k := by simp only [size] at hs; omega
      show toTree h (k + 1) (some i) = _
      simp only [toTree, h1]
      rw [ihl k h2 (Nat.le_trans (Nat.le_add_right ..) hk), ihr k h3 (Nat.le_trans (Nat.le_add_left ..) hk)]

theorem heapOf_eq_none : ∀ (t : PNode) (j : Nat), heapOf t j = none ↔ j ∉ t.ids := by
  intro t
  induction t with
  | nil => intro j; simp [heapOf, ids]
  | mk i lb p f l r ihl ihr => intro j; by_cases e : j = i <;> simp [heapOf, ids, e, ihl, ihr]

theorem rep_heapOf : ∀ (t : PNode), t.ids.Nodup → Rep (heapOf t) t := by
  intro t
  induction t with
  | nil => intro _; trivial
  | mk i lb p f l r ihl ihr =>
    intro hn
    obtain ⟨h1, h2, hl, hr, hd⟩ := nodup_mk hn
    refine ⟨by simp [heapOf], ?_, ?_⟩
    · refine rep_congr l (fun j hj => ?_) (ihl hl)
      have hji : j ≠ i := fun e => h1 (e ▸ hj)
      cases hc : heapOf l j with
      | none => exact absurd hj ((heapOf_eq_none l j).1 hc)
      | some c => simp [heapOf, hji, hc]
    · refine rep_congr r (fun j hj => ?_) (ihr hr)
      have hji : j ≠ i := fun e => h2 (e ▸ hj)
      simp [heapOf, hji, (heapOf_eq_none l j).2 (fun hx => hd j hx hj)]

theorem rep_union {t u : PNode} (ht : t.ids.Nodup) (hu : u.ids.Nodup) (hd : ∀ x ∈ t.ids, x ∉ u.ids) :
    Rep ((heapOf t).union (heapOf u)) t ∧ Rep ((heapOf t).union (heapOf u)) u := by
  refine ⟨rep_congr t (fun j hj => ?_) (rep_heapOf t ht), rep_congr u (fun j hj => ?_) (rep_heapOf u hu)⟩
  · cases hc : heapOf t j with
    | none => exact absurd hj ((heapOf_eq_none t j).1 hc)
    | some c => simp [Heap.union, hc]
  · simp [Heap.union, (heapOf_eq_none t j).2 (fun hx => hd j hx hj)]

theorem rep_of_mem_pre {h : Heap} (t n : PNode) (hn : n ∈ t.pre) (hr : Rep h t) : Rep h n :=
  of_mem_pre (P := Rep h) (fun _ _ _ _ _ _ hr => hr.2) hn hr

theorem rep_childOf {h : Heap} {t : PNode} (pid : Nat) (side : Bool) (hr : Rep h t) : Rep h (childOf pid side t) := by
  rcases childOf_nil_or_mem pid side t with e | e
  · rw [e]; trivial
  · exact rep_of_mem_pre t _ e hr

theorem rep_cell {h : Heap} {t : PNode} (hr : Rep h t) {j : Nat} (hj : j ∈ t.ids) :
    ∃ c, h j = some c ∧ ∀ side, (if side then c.left else c.right) = (childOf j side t).id? := by
  obtain ⟨n, hl, hn, hid⟩ := exists_lookup_of_mem_ids hj
  have hrn := rep_of_mem_pre t n hn hr
  cases n with
  | nil => simp [id?] at hid
  | mk i lb p f l r =>
    simp only [id?, Option.some.injEq] at hid; subst hid
    refine ⟨_, hrn.1, fun side => ?_⟩
    unfold childOf; rw [hl]; cases side <;> rfl

theorem link_of_ne {h : Heap} {pid br j : Nat} (side : Bool) (h1 : j ≠ pid) (h2 : j ≠ br) :
    h.link pid side br j = h j := by
  simp [Heap.link, h1, h2]

/-- the field writes on `pid` and `br`, as `mutateBody_run` and `crossBody_run` state them, are one `link` -/
theorem link_eq_set {h : Heap} {pid br : Nat} {side : Bool} {c cb : Cell} (hc : h pid = some c) (hcb : h br = some cb) :
    (h.set pid (if side then { c with left := some br } else { c with right := some br })).set br
        { cb with flag := side, par := some pid } = h.link pid side br := by
  funext j
  by_cases e1 : j = br
  · simp [Heap.set, Heap.link, e1, hcb]
  · by_cases e2 : j = pid
    · subst e2; cases side <;> simp [Heap.set, Heap.link, e1, hc]
    · simp [Heap.set, Heap.link, e1, e2]

theorem link_comm (h : Heap) {pid br pid' br' : Nat} (side side' : Bool)
    (h1 : pid ≠ pid') (h2 : pid ≠ br') (h3 : br ≠ pid') (h4 : br ≠ br') :
    (h.link pid side br).link pid' side' br' = (h.link pid' side' br').link pid side br := by
  funext j
  simp only [Heap.link, h1.symm, h2.symm, h3.symm, h4.symm, h1, h2, h3, h4, if_false]
  by_cases e1 : j = br'
  · subst e1; simp [h2.symm, h4.symm]
  · by_cases e2 : j = pid'
    · subst e2; simp [e1, h1.symm, h3.symm]
    · simp [e1, e2]

theorem rep_link_frame {h : Heap} {u : PNode} {pid br : Nat} (side : Bool) (hr : Rep h u)
    (h1 : pid ∉ u.ids) (h2 : br ∉ u.ids) : Rep (h.link pid side br) u :=
  rep_congr u (fun _ hj => link_of_ne side (fun e => h1 (e ▸ hj)) (fun e => h2 (e ▸ hj))) hr

/-- the graft lemma: one `link` implements `setChild` -/
theorem graft {h : Heap} {pid br : Nat} {side : Bool} {b : PNode} (hid : b.id? = some br)
    (hb : Rep h b) (hbn : b.ids.Nodup) (hpb : pid ∉ b.ids) :
    ∀ {s : PNode}, Rep h s → s.ids.Nodup → (∀ x ∈ s.ids, x ∉ b.ids) →
      Rep (h.link pid side br) (setChild pid side b s) := by
  have hbr := id?_mem_ids hid
  -- the branch itself: its root cell takes the new parent and flag, below the root the link changes nothing
  have hrel : Rep (h.link pid side br) (relink pid side b) := by
    cases b with
    | nil => simp [id?] at hid
    | mk i lb p f l r =>
      simp only [id?, Option.some.injEq] at hid; subst hid
      obtain ⟨b1, b2, _, _, _⟩ := nodup_mk hbn
      simp only [ids, List.mem_cons, List.mem_append, not_or] at hpb
      exact ⟨by simp [Heap.link, hb.1], rep_link_frame side hb.2.1 hpb.2.1 b1, rep_link_frame side hb.2.2 hpb.2.2 b2⟩
  intro s
  induction s with
  | nil => intro _ _ _; trivial
  | mk i lb p f l r ihl ihr =>
    intro ⟨hc, hrl, hrr⟩ hn hd
    obtain ⟨h1, h2, hl, hrn, _⟩ := nodup_mk hn
    have hdl : ∀ x ∈ l.ids, x ∉ b.ids := fun x hx => hd x (by simp [ids, hx])
    have hdr : ∀ x ∈ r.ids, x ∉ b.ids := fun x hx => hd x (by simp [ids, hx])
    have hib : i ≠ br := fun e => hd i (by simp [ids]) (e ▸ hbr)
    by_cases hi : i = pid
    · subst hi
      rw [setChild_here]
      cases side
      · exact ⟨by simp [Heap.link, hib, hc, id?_relink, hid],
          rep_link_frame _ hrl h1 (fun e => hdl br e hbr), hrel⟩
      · exact ⟨by simp [Heap.link, hib, hc, id?_relink, hid], hrel,
          rep_link_frame _ hrr h2 (fun e => hdr br e hbr)⟩
    · rw [setChild_ne hi]
      exact ⟨by rw [link_of_ne side hi hib, id?_setChild, id?_setChild]; exact hc,
        ihl hrl hl hdl, ihr hrr hrn hdr⟩

theorem rep_toTree_setChild {h : Heap} {pid : Nat} {side : Bool} {b t : PNode} (hr : Rep h (setChild pid side b t))
    (hnd : t.ids.Nodup) (hmem : pid ∈ t.ids) {fuel : Nat} (hs : t.size + b.size ≤ fuel) :
    toTree h fuel t.id? = setChild pid side b t := by
  have := rep_toTree _ fuel hr (Nat.le_trans (Nat.le.intro (size_setChild hnd hmem)) hs)
  rwa [id?_setChild] at this

theorem set_set_same (h : Heap) (i : Nat) (c c' : Cell) : (h.set i c).set i c' = h.set i c' := by
  funext j; by_cases e : j = i <;> simp [Heap.set, e]

/-- what the three writes of the `if sub_tree:` branch of `_mutate` do to the heap -/
theorem mutateBody_run (s : HState) (pid br : Nat) (side : Bool) (c cb : Cell)
    (he1 : s.env "sub_tree" = some pid) (he2 : s.env "branch" = some br) (hf : s.flags "flag" = side)
    (hc : s.heap pid = some c) (hcb : s.heap br = some cb) (hne : br ≠ pid) :
    (Expected.mutateBody.run s).map (·.heap) =
      some ((s.heap.set pid (if side then { c with left := some br } else { c with right := some br })).set br
                  { cb with flag := side, par := some pid }) := by
  cases side <;>
    simp [Expected.mutateBody, HStmt.run, HCond.eval, HState.target, HRef.eval, Heap.set, he1, he2, hf, hc, hcb, hne] <;>
    exact set_set_same _ _ _ _

theorem map_heap {β : Type} {r : Option HState} {H : Heap} (h : r.map (·.heap) = some H) (g : Heap → β) :
    r.map (fun s1 => g s1.heap) = some (g H) := by
  have := congrArg (Option.map g) h
  rwa [Option.map_map] at this

/-- `_mutate`, slot branch, on the heap: after the three writes the object graph hanging from the copy's root is
    `setChild pid side branch t` (what `PNode.mutate` returns for a slot) -/
theorem mutateBody_spec (t branch : PNode) (pid : Nat) (side : Bool)
    (ht : t.ids.Nodup) (hb : branch.ids.Nodup) (hd : ∀ x ∈ t.ids, x ∉ branch.ids)
    (hpid : pid ∈ t.ids) (hne : branch ≠ nil)
    (env : String → Option Nat) (flags : String → Bool)
    (he1 : env "sub_tree" = some pid) (he2 : env "branch" = branch.id?) (hf : flags "flag" = side)
    {fuel : Nat} (hfuel : t.size + branch.size ≤ fuel) :
    (Expected.mutateBody.run ⟨(heapOf t).union (heapOf branch), env, flags⟩).map
      (fun s1 => toTree s1.heap fuel t.id?) = some (setChild pid side branch t) := by
  obtain ⟨br, hid⟩ := exists_id_of_ne_nil hne
  obtain ⟨hrt, hrb⟩ := rep_union ht hb hd
  obtain ⟨c, hc, _⟩ := rep_cell hrt hpid
  obtain ⟨cb, hcb, _⟩ := rep_cell hrb (id?_mem_ids hid)
  refine (map_heap (mutateBody_run _ pid br side c cb he1 (he2.trans hid) hf hc hcb
    (fun e => hd pid hpid (e ▸ id?_mem_ids hid))) fun H => toTree H fuel t.id?).trans (congrArg some ?_)
  rw [link_eq_set hc hcb]
  exact rep_toTree_setChild (graft hid hrb hb (hd pid hpid) hrt ht hd) ht hpid hfuel

/-- what the writes of the `if sub_father and sub_mother:` branch of `_cross` do to the heap: four objects change -/
theorem crossBody_run (s : HState) (sf sm br mv : Nat) (ff fm : Bool) (csf csm cbr cmv : Cell)
    (he1 : s.env "sub_father" = some sf) (he2 : s.env "sub_mother" = some sm)
    (hf1 : s.flags "flag_father" = ff) (hf2 : s.flags "flag_mother" = fm)
    (h1 : s.heap sf = some csf) (h2 : s.heap sm = some csm) (h3 : s.heap br = some cbr) (h4 : s.heap mv = some cmv)
    (hcf : (if ff then csf.left else csf.right) = some br) (hcm : (if fm then csm.left else csm.right) = some mv)
    (d1 : sf ≠ sm) (d2 : sf ≠ br) (d3 : sf ≠ mv) (d4 : sm ≠ br) (d5 : sm ≠ mv) (d6 : br ≠ mv) :
    (Expected.crossBody.run s).map (·.heap) =
      some ((((s.heap.set sf (if ff then { csf with left := some mv } else { csf with right := some mv })).set mv
                { cmv with flag := ff, par := some sf }).set sm
                (if fm then { csm with left := some br } else { csm with right := some br })).set br
                { cbr with flag := fm, par := some sm }) := by
  -- `simp` meets the disequalities in both orientations
  have d1' := d1.symm; have d2' := d2.symm; have d3' := d3.symm; have d4' := d4.symm
  cases ff <;> cases fm <;>
    simp only [if_true, if_false, Bool.false_eq_true] at hcf hcm <;>
    simp [Expected.crossBody, HStmt.run, HCond.eval, HState.target, HRef.eval, Heap.set, he1, he2, hf1, hf2, h1, h2, h3, h4,
          hcf, hcm, d3, d5, d6, d1', d2', d3', d4', set_set_same]

/-- one half of `_cross`: the second link touches `sm` and `br`, which are no longer in the tree read back -/
theorem cross_half {h : Heap} {f m : PNode} {sf sm br mv : Nat} {ff fm : Bool}
    (hf : f.ids.Nodup) (hm : m.ids.Nodup) (hd : ∀ x ∈ f.ids, x ∉ m.ids) (hsf : sf ∈ f.ids) (hsm : sm ∈ m.ids)
    (hrf : Rep h f) (hrm : Rep h m)
    (hbr : (childOf sf ff f).id? = some br) (hmv : (childOf sm fm m).id? = some mv)
    {fuel : Nat} (hfuel : f.size + m.size ≤ fuel) :
    toTree ((h.link sf ff mv).link sm fm br) fuel f.id? = setChild sf ff (childOf sm fm m) f := by
  have hsub : ∀ x ∈ f.ids, x ∉ (childOf sm fm m).ids := fun x hxf hx => hd x hxf (childOf_ids_subset hx)
  refine rep_toTree_setChild (rep_link_frame fm
    (graft hmv (rep_childOf sm fm hrm) (childOf_nodup hm) (hsub sf hsf) hrf hf hsub) ?_
    (not_mem_setChild_of_mem_childOf hf hsf (id?_mem_ids hbr) (hsub br (childOf_ids_subset (id?_mem_ids hbr)))))
    hf hsf (Nat.le_trans (Nat.add_le_add_left (size_childOf_le sm fm m) _) hfuel)
  intro hx
  rcases ids_setChild_subset sf ff _ f sm hx with e | e
  · exact hd sm e hsm
  · exact pid_not_mem_childOf hm e

/-- `_cross`, both slots present, on the heap of the two copies: afterwards the object graph hanging from the father
    copy's root is `setChild sf ff (childOf sm fm m) f` and the one hanging from the mother copy's root is
    `setChild sm fm (childOf sf ff f) m` — the pair `PNode.cross` returns -/
theorem crossBody_spec (f m : PNode) (sf sm : Nat) (ff fm : Bool)
    (hf : f.ids.Nodup) (hm : m.ids.Nodup) (hd : ∀ x ∈ f.ids, x ∉ m.ids)
    (hsf : sf ∈ f.ids) (hsm : sm ∈ m.ids)
    (hbr : childOf sf ff f ≠ nil) (hmv : childOf sm fm m ≠ nil)
    (env : String → Option Nat) (flags : String → Bool)
    (he1 : env "sub_father" = some sf) (he2 : env "sub_mother" = some sm)
    (hf1 : flags "flag_father" = ff) (hf2 : flags "flag_mother" = fm)
    {fuel : Nat} (hfuel : f.size + m.size ≤ fuel) :
    (Expected.crossBody.run ⟨(heapOf f).union (heapOf m), env, flags⟩).map
        (fun s1 => (toTree s1.heap fuel f.id?, toTree s1.heap fuel m.id?)) =
      some (setChild sf ff (childOf sm fm m) f, setChild sm fm (childOf sf ff f) m) := by
  obtain ⟨hrf, hrm⟩ := rep_union hf hm hd
  have hd' : ∀ x ∈ m.ids, x ∉ f.ids := fun x hx hxf => hd x hxf hx
  obtain ⟨br, hB⟩ := exists_id_of_ne_nil hbr
  obtain ⟨mv, hM⟩ := exists_id_of_ne_nil hmv
  have hbrB := id?_mem_ids hB
  have hmvM := id?_mem_ids hM
  have hbrf : br ∈ f.ids := childOf_ids_subset hbrB
  have hmvm : mv ∈ m.ids := childOf_ids_subset hmvM
  obtain ⟨csf, h1, hcf⟩ := rep_cell hrf hsf
  obtain ⟨csm, h2, hcm⟩ := rep_cell hrm hsm
  obtain ⟨cbr, h3, _⟩ := rep_cell hrf hbrf
  obtain ⟨cmv, h4, _⟩ := rep_cell hrm hmvm
  have d1 : sf ≠ sm := fun e => hd sf hsf (e ▸ hsm)
  have d2 : sf ≠ br := fun e => pid_not_mem_childOf hf (e ▸ hbrB)
  have d3 : sf ≠ mv := fun e => hd sf hsf (e ▸ hmvm)
  have d4 : sm ≠ br := fun e => hd br hbrf (e ▸ hsm)
  have d5 : sm ≠ mv := fun e => pid_not_mem_childOf hm (e ▸ hmvM)
  have d6 : br ≠ mv := fun e => hd br hbrf (e ▸ hmvm)
  refine (map_heap (crossBody_run _ sf sm br mv ff fm csf csm cbr cmv he1 he2 hf1 hf2 h1 h2 h3 h4
    ((hcf ff).trans hB) ((hcm fm).trans hM) d1 d2 d3 d4 d5 d6)
    fun H => (toTree H fuel f.id?, toTree H fuel m.id?)).trans (congrArg some ?_)
  rw [link_eq_set h1 h4, link_eq_set ((link_of_ne ff d1.symm d5).trans h2) ((link_of_ne ff d2.symm d6).trans h3)]
  refine Prod.ext (cross_half hf hm hd hsf hsm hrf hrm hB hM hfuel) ?_
  rw [link_comm _ ff fm d1 d2 d5.symm d6.symm]
  exact cross_half hm hf hd' hsm hsf hrm hrf hM hB (Nat.add_comm f.size m.size ▸ hfuel)

/-! ### non-vacuity: a concrete pair of parents, both slots present, run on the heap -/
def hF : PNode :=
  mk 10 ⟨false, 0, 0⟩ none true
    (mk 11 ⟨false, 1, 0⟩ (some 10) true (mk 12 ⟨true, 0, 7⟩ (some 11) true nil nil) nil)
    (mk 13 ⟨true, 1, 8⟩ (some 10) false nil nil)

def hM : PNode :=
  mk 20 ⟨false, 0, 0⟩ none true
    (mk 21 ⟨true, 0, 7⟩ (some 20) true nil nil)
    (mk 22 ⟨false, 1, 0⟩ (some 20) false (mk 23 ⟨true, 1, 8⟩ (some 22) true nil nil) nil)

def hS : HState :=
  { heap := (heapOf hF).union (heapOf hM),
    env := fun n => if n = "sub_father" then some 11 else if n = "sub_mother" then some 20 else none,
    flags := fun n => n == "flag_father" }

-- `hS` exchanges the slots (11, left), the terminal 12 of the father, and (20, right), the function node 22 of the
-- mother (a slot no point of `hM` selects: point 1 gives (20, left))
example : findNode hF 2 = .slot 11 true := by decide +kernel
example : findNode hM 1 = .slot 20 true := by decide +kernel
example : (∀ x ∈ hF.ids, x ∉ hM.ids) := by decide +kernel

example : ((Expected.crossBody.run hS).map (fun s1 => (toTree s1.heap 10 hF.id?, toTree s1.heap 10 hM.id?))) =
    some (setChild 11 true (childOf 20 false hM) hF, setChild 20 false (childOf 11 true hF) hM) := by decide +kernel

/-- **`_cross` at the level of field writes is the functional model**: for proper parents on disjoint identities (the
    two deep copies), every pair of points -/
theorem runCross_is_cross {ar : Nat → Nat} (f m : PNode) (pf pm : Nat) (hwf : WF ar f) (hwm : WF ar m)
    (hd : ∀ x ∈ f.ids, x ∉ m.ids) :
    runCross Expected.crossFrame.cond Expected.crossBody f m pf pm = cross f m pf pm := by
  unfold runCross cross
  cases hfn : findNode f pf with
  | error => rfl
  | noSlot =>
    cases hmn : findNode m pm with
    | error => rfl
    | noSlot => simp [Expected.crossFrame, HCond.eval]
    | slot sm fm => simp [Expected.crossFrame, HCond.eval]
  | slot sf ff =>
    cases hmn : findNode m pm with
    | error => rfl
    | noSlot => simp [Expected.crossFrame, HCond.eval]
    | slot sm fm =>
      simp only [Expected.crossFrame, HCond.eval, ↓reduceIte, String.reduceEq, Option.isSome_some, Bool.and_self]
      exact crossBody_spec f m sf sm ff fm hwf.nodup hwm.nodup hd (findNode_slot_mem hwf hfn)
        (findNode_slot_mem hwm hmn) (findNode_slot_child_ne_nil hwf hfn) (findNode_slot_child_ne_nil hwm hmn) _ _
        (by simp) (by simp) (by simp) (by simp) (Nat.le_succ _)

/-- **`_mutate` at the level of field writes is the functional model**, for a proper tree and a fresh branch on other
    identities -/
theorem runMutate_is_mutate {ar : Nat → Nat} (t branch : PNode) (point : Nat) (hwf : WF ar t)
    (hb : branch.ids.Nodup) (hd : ∀ x ∈ t.ids, x ∉ branch.ids) (hne : branch ≠ nil) :
    runMutate Expected.mutFrame.cond Expected.mutateBody t point branch = mutate t point branch := by
  unfold runMutate mutate
  cases hfn : findNode t point with
  | error => rfl
  | noSlot => simp [Expected.mutFrame, HCond.eval]
  | slot pid side =>
    simp only [Expected.mutFrame, HCond.eval, ↓reduceIte, Option.isSome_some]
    exact mutateBody_spec t branch pid side hwf.nodup hb hd (findNode_slot_mem hwf hfn) hne _ _
      (by simp) (by simp) (by simp) (Nat.le_succ _)

end Opy
