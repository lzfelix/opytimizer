import OpyVerif.Proofs.TaskTrial
import OpyVerif.Proofs.TaskRunCode
import OpyVerif.Generated.Skeletons.evalSites_ok
import OpyVerif.Generated.Accepts.acceptSites_ok
/-!
The greedy-task theorems of `Proofs/TaskTrial.lean` about what the translator read on this run: any of the sixteen `run()`
skeletons, `SearchSpace.check_limits`, `Optimizer._evaluate`, any non-sweep evaluation site of `Gen.evalSites`
(`ABC._evaluate_location`, `ABC._send_scout`, `CS._evaluate_nests`, `FPA._update`, `HS._update` …) and any acceptance site
of `Gen.acceptSites` whose role is *greedy*.  The model compares a trial with the population member at a fixed index, which is what
ABC, CS and FPA do; HS / IHS sort the population and replace its worst member, so for them the index-wise statement is about the
sorted population (the rank-wise reading is `replaceWorst_rank_antitone` in `Proofs/C20.lean`); the site-level facts are shared.
-/
namespace Opy
open Opy.Task

/-- every evaluation site outside the sweeps clips before it evaluates -/
theorem code_trialSites_ok : ∀ site ∈ Gen.evalSites, site.isSweep = false → opsOk false site.ops = true := by
  intro site hs hsw
  have h := List.all_eq_true.mp Gen.evalSites_ok site hs
  simpa [Site.ok, hsw] using h

/-- every greedy acceptance site replaces the incumbent by a copy of a candidate that is not worse -/
theorem code_greedySites_ok : ∀ acc ∈ Gen.acceptSites, acc.role = .greedy → acc.okReplace = true := by
  intro acc ha hr
  have h := List.all_eq_true.mp Gen.acceptSites_ok acc ha
  simpa [AcceptRec.ok, hr] using h

theorem code_searchClip_fixes (lbs ubs : List Int) : ClipFixes Gen.searchClip lbs ubs lbs ubs := by
  intro pos hp
  rw [code_searchClip_runPos]
  exact clipPos_fixed lbs ubs pos hp

/-- **C20 / C01 about the translated programs.**  For every skeleton, trial site and greedy acceptance site of the current
    source, every box with `lb ≤ ub`, every objective, every trial script and every iteration count: from the first sweep on
    every agent is feasible and truthful, every per-agent record is feasible and truthful, and from record to record no
    agent's fitness increases. -/
theorem code_task_greedy (sk : Skeleton) (hsk : sk ∈ Gen.taskSkeletons)
    (site : Site) (hsite : site ∈ Gen.evalSites) (hns : site.isSweep = false)
    (acc : AcceptRec) (hacc : acc ∈ Gen.acceptSites) (hrole : acc.role = .greedy)
    (lbs ubs : List Int) (hb : BoundsOk lbs ubs) (f : Pos → Int) (script : Nat → List Trial)
    (hscript : ∀ k, ∀ t ∈ script k, ∀ q ∈ t.proposals, q.length = lbs.length)
    (pop : List Ag) (best : Ag) (h0 : ∀ a ∈ pop, InBox lbs ubs a.pos) (N : Nat) :
    GInv lbs ubs f (TaskProg.runTask ⟨sk, Gen.searchClip, Gen.genericSweep⟩ lbs ubs
      (greedyOracle site acc lbs ubs f script) (TaskSt.start pop best) N) :=
  task_greedy ⟨sk, Gen.searchClip, Gen.genericSweep⟩ site acc lbs ubs lbs ubs f script (code_taskSkeletons_good sk hsk) hb
    (code_trialSites_ok site hsite hns) (code_greedySites_ok acc hacc hrole) (code_searchClip_fixes lbs ubs)
    code_genericSweep_isRule hscript pop best h0 N

/-- `HyperSpace.check_limits`, as translated and run with any declared bounds of the right length, leaves positions of the
    unit box where they are -/
theorem code_hyperClip_fixes (dl du : List Int) (hl : dl.length = du.length) :
    ClipFixes Gen.hyperClip dl du (List.replicate dl.length keyZero) (List.replicate dl.length keyOne) := by
  intro pos hp
  have hlen : pos.length = dl.length := by simpa using inBox_length _ _ pos hp
  rw [code_hyperClip_runPos, ← hl, Nat.min_self, ← hlen]
  exact clipHyper_fixed pos (hlen ▸ hp)

/-- **C20 / C01 / C13 on hypercomplex spaces.**  The same for a task on a `HyperSpace`: whatever bounds were declared, with the
    trials' own clip and the space clip both working on the unit box, from the first sweep on every agent and every record is
    inside the unit box and truthful, and no agent's recorded fitness increases. -/
theorem code_task_greedy_hyper (sk : Skeleton) (hsk : sk ∈ Gen.taskSkeletons)
    (site : Site) (hsite : site ∈ Gen.evalSites) (hns : site.isSweep = false)
    (acc : AcceptRec) (hacc : acc ∈ Gen.acceptSites) (hrole : acc.role = .greedy)
    (dl du : List Int) (hl : dl.length = du.length) (f : Pos → Int) (script : Nat → List Trial)
    (hscript : ∀ k, ∀ t ∈ script k, ∀ q ∈ t.proposals, q.length = (List.replicate dl.length keyZero).length)
    (pop : List Ag) (best : Ag)
    (h0 : ∀ a ∈ pop, InBox (List.replicate dl.length keyZero) (List.replicate dl.length keyOne) a.pos) (N : Nat) :
    GInv (List.replicate dl.length keyZero) (List.replicate dl.length keyOne) f
      (TaskProg.runTask ⟨sk, Gen.hyperClip, Gen.genericSweep⟩ dl du
        (greedyOracle site acc (List.replicate dl.length keyZero) (List.replicate dl.length keyOne) f script)
        (TaskSt.start pop best) N) :=
  task_greedy ⟨sk, Gen.hyperClip, Gen.genericSweep⟩ site acc dl du _ _ f script (code_taskSkeletons_good sk hsk)
    (boundsOk_unit _) (code_trialSites_ok site hsite hns) (code_greedySites_ok acc hacc hrole) (code_hyperClip_fixes dl du hl)
    code_genericSweep_isRule hscript pop best h0 N

/-- … and every objective call of every trial of such a task lies in the box -/
theorem code_trial_evals_inBox (site : Site) (hsite : site ∈ Gen.evalSites) (hns : site.isSweep = false)
    (acc : AcceptRec) (hacc : acc ∈ Gen.acceptSites) (hrole : acc.role = .greedy)
    (lbs ubs : List Int) (hb : BoundsOk lbs ubs) (f : Pos → Int) (pop : List Ag) (ts : List Trial)
    (hp : ∀ a ∈ pop, Settled lbs ubs f a) (ht : ∀ t ∈ ts, ∀ q ∈ t.proposals, q.length = lbs.length) :
    ∀ e ∈ (greedyUpdate site acc lbs ubs f pop ts).2, InBox lbs ubs e.1 :=
  (greedyUpdate_evals_inBox site acc lbs ubs f hb (code_trialSites_ok site hsite hns)
    (code_greedySites_ok acc hacc hrole) pop ts hp ht).1

/-- every evaluation site of the current source calls the objective exactly once -/
theorem code_sites_one_eval : ∀ site ∈ Gen.evalSites, (site.ops.filter (· == .eval)).length = 1 := by decide +kernel

/-- **C02 about the translated programs, every objective call counted.**  At the end of every iteration of a greedy task the
    best agent's fitness is at most every value the objective returned, to a sweep or to a trial. -/
theorem code_task_greedy_best_is_min (sk : Skeleton) (hsk : sk ∈ Gen.taskSkeletons)
    (site : Site) (hsite : site ∈ Gen.evalSites) (hns : site.isSweep = false)
    (acc : AcceptRec) (hacc : acc ∈ Gen.acceptSites) (hrole : acc.role = .greedy)
    (lbs ubs : List Int) (hb : BoundsOk lbs ubs) (f : Pos → Int) (script : Nat → List Trial)
    (hscript : ∀ k, ∀ t ∈ script k, ∀ q ∈ t.proposals, q.length = lbs.length)
    (pop : List Ag) (best : Ag) (h0 : ∀ a ∈ pop, InBox lbs ubs a.pos) (N : Nat) :
    let s := TaskProg.runTask ⟨sk, Gen.searchClip, Gen.genericSweep⟩ lbs ubs
      (greedyOracle site acc lbs ubs f script) (TaskSt.start pop best) N
    (∀ e ∈ s.evals, s.best.fit ≤ e.2) ∧ (∀ e ∈ s.trialEvals, s.best.fit ≤ e.2) :=
  task_greedy_best_is_min ⟨sk, Gen.searchClip, Gen.genericSweep⟩ site acc lbs ubs lbs ubs f script (code_taskSkeletons_good sk hsk) hb
    (code_trialSites_ok site hsite hns) (code_greedySites_ok acc hacc hrole) (code_sites_one_eval site hsite)
    (code_searchClip_fixes lbs ubs) code_genericSweep_isRule hscript pop best h0 N

namespace TrialExample
open TaskExample
def siteCS : Site := { func := "CS._evaluate_nests", obj := "new_agent", ops := [.assign, .clip, .eval], isSweep := false }
def accCS : AcceptRec :=
  { func := "CS._evaluate_nests", role := .greedy, op := .lt, lhs := .cand, rhs := .incumbent, posFrom := .cand, posCopy := true,
    fitFrom := .cand, both := true, unknown := 0 }
example : siteCS ∈ Gen.evalSites ∧ accCS ∈ Gen.acceptSites := by simp [Gen.evalSites, Gen.acceptSites, siteCS, accCS]
/-- (oracle steps are numbered through the task: hook 0, update 1, hook 2, update 3, hook 4) two agents at 5 and 7 in the box [0, 10], objective `x ↦ x`; iteration 1 proposes 3 for agent 0 (accepted) and 25 for
    agent 1 (clipped to 10, evaluated there, rejected); iteration 2 proposes −4 for agent 1 (clipped to 0, accepted) -/
def script : Nat → List Trial
  | 1 => [{ who := 0, proposals := [[[3]]] }, { who := 1, proposals := [[[25]]] }]
  | 3 => [{ who := 1, proposals := [[[-4]]] }]
  | _ => []
def a1 : Ag := { pos := [[7]], tpos := [[7]], fit := 100, ref := 2 }
example :
    let s := TaskProg.runTask ⟨Gen.skel_CS, Gen.searchClip, Gen.genericSweep⟩ [0] [10]
      (greedyOracle siteCS accCS [0] [10] o0.f script) (TaskSt.start [a0, a1] b0) 2
    s.dumps.map (·.1) = [[([[3]], 3), ([[7]], 7)], [([[3]], 3), ([[0]], 0)]] ∧ s.k = 5 ∧
      s.trialEvals = [([[3]], 3), ([[10]], 10), ([[0]], 0)] ∧ record s.best = ([[0]], 0) := by decide +kernel
example : (greedyUpdate siteCS accCS [0] [10] o0.f [a0, a1] (script 1)).2 = [([[3]], 3), ([[10]], 10)] := by decide +kernel
end TrialExample

end Opy
