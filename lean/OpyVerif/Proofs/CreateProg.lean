import OpyVerif.Model.CreateProg
/-!
C07 (construction clause): the population a space builds has exactly `n_agents` agents, all of the declared shape, no two
of them the same object, and the best agent is a further object.
-/
namespace Opy

theorem createProg_run (n v d next : Nat) :
    Expected.createProg.run n v d next =
      if n = 0 then none
      else some ((List.range n).map (fun i => (⟨next + i, v, d⟩ : AgentObj)), ⟨next + n, v, d⟩) := by
  cases n with
  | zero => rfl
  | succ k => simp [CreateProg.run, CreateProg.wellFormed, Expected.createProg, List.range_succ_eq_map]

/-- **what `_create_agents` builds** -/
theorem createProg_spec (n v d next : Nat) (ags : List AgentObj) (best : AgentObj)
    (h : Expected.createProg.run n v d next = some (ags, best)) :
    ags.length = n ∧ (ags.map (·.id)).Nodup ∧ best.id ∉ ags.map (·.id) ∧
      (∀ a ∈ ags, a.nVars = v ∧ a.nDims = d) ∧ best.nVars = v ∧ best.nDims = d ∧
      (∀ a ∈ ags, next ≤ a.id) ∧ next ≤ best.id := by
  rw [createProg_run] at h
  split at h
  · cases h
  cases h
  have hids : ((List.range n).map (fun i => (⟨next + i, v, d⟩ : AgentObj))).map (·.id) = List.range' next n := by
    rw [List.map_map, List.range'_eq_map_range]; rfl
  refine ⟨by rw [List.length_map, List.length_range], hids ▸ List.nodup_range' 1, ?_, ?_, rfl, rfl, ?_, Nat.le_add_right ..⟩
  · rw [hids, List.mem_range'_1]; exact fun h => Nat.lt_irrefl _ h.2
  · intro a ha; obtain ⟨i, _, rfl⟩ := List.mem_map.1 ha; exact ⟨rfl, rfl⟩
  · intro a ha; exact (List.mem_range'_1.1 (hids ▸ List.mem_map_of_mem ha)).1

/-- a population made by repeating one object is *not* accepted by the specification (two slots, one object) -/
example : ((({ Expected.createProg with listKind := .repeated } : CreateProg).run 3 2 1 10).map
    fun r => (r.1.map (·.id))) = some [10, 10, 10] := by decide +kernel

example : (Expected.createProg.run 3 2 1 10).map (fun r => (r.1.map (·.id), r.2.id)) = some ([10, 11, 12], 13) := by decide +kernel

end Opy
