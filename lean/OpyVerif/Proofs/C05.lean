import OpyVerif.Model.Effects
/-!
C05 — runs are reproducible from the seed alone.

**What is proved here is structural.**  `Prog` (Model/Effects.lean) is the language of
everything a run is allowed to do: draw from the global generator (`uniform`, `normal`,
`choice`), read the clock, call the objective, call the hook.  `interp` gives it meaning over a
`World = (rng stream + position, clock stream + position, ambient)`.  The theorems say: *code
that touches only these primitives is reproducible* — its result is a function of the consumed
segment of the generator stream (i.e. of the seed) and, only through `clock` nodes, of the
clock; the `ambient` component (hash seed, earlier workload, module globals, …) cannot matter.

That each shipped optimiser *is* such a program — that it has no other source of
nondeterminism (iteration over sets, `id()`-dependent ordering, a private generator, …) — is
**not** proved in Lean.  It is established outside Lean by the two-run differential test of the
harness (same seed twice, in differently perturbed processes ⇒ identical histories; different
seeds ⇒ different histories).  The Lean part of that tie is the table of effect sites read from the source
(`Model/EffectSites.lean`: `sites_in_signature`; `Proofs/C05code.lean`; `Gen.hiddenState_none`).

* `run_ambient_irrelevant`      : equal generator and clock ⇒ equal result and final states;
* `run_clock_irrelevant_for`    : no `clock` node ⇒ the clock cannot matter at all;
* `run_clock_only_through_reads`: in general only the clock values actually read matter;
* `run_depends_only_on_consumed`: only the consumed stream segments matter (master statement);
* `run_rng_position`, `run_consumes` : the stream is consumed, one element per draw node;
* `run_deterministic_in_seed`(`_noClock`) : same seed ⇒ same result.

Core Lean only.
-/
namespace Opy

variable {α : Type} (f : List Int → Int)

theorem interp_final (p : Prog α) (w : World) :
    (interp f p w).2 = { w with pos := w.pos + draws f p w, cpos := w.cpos + ticks f p w } := by
  induction p generalizing w with
  | pure a => rfl
  | uniform k ih | normal k ih | choice _ k ih | clock k ih =>
    simp only [interp, draws, ticks, ih]; simp only [Nat.add_assoc, Nat.add_comm 1]
  | objective _ k ih | hook k ih => simp only [interp, draws, ticks, ih]

/-- a window of `n + 1` equal readings is an equal first reading and a window of `n` behind it -/
theorem window_tail {r1 r2 : Nat → Int} {p1 p2 n : Nat} (h : ∀ i, i < n + 1 → r1 (p1 + i) = r2 (p2 + i)) :
    r1 p1 = r2 p2 ∧ ∀ i, i < n → r1 (p1 + 1 + i) = r2 (p2 + 1 + i) :=
  ⟨h 0 (Nat.succ_pos n), fun i hi => by
    rw [Nat.add_assoc, Nat.add_assoc, Nat.add_comm 1]; exact h (i + 1) (Nat.succ_lt_succ hi)⟩

/-- **master statement**: the result depends on the world only through the generator elements
    actually consumed and the clock readings actually taken (both counted on the executed path
    of the first run, read relative to the current positions) -/
theorem run_depends_only_on_consumed (p : Prog α) (w1 w2 : World)
    (hr : ∀ i, i < draws f p w1 → w1.rng (w1.pos + i) = w2.rng (w2.pos + i))
    (hc : ∀ i, i < ticks f p w1 → w1.clock (w1.cpos + i) = w2.clock (w2.cpos + i)) :
    (interp f p w1).1 = (interp f p w2).1 ∧ draws f p w2 = draws f p w1 ∧ ticks f p w2 = ticks f p w1 := by
  induction p generalizing w1 w2 with
  | pure a => exact ⟨rfl, rfl, rfl⟩
  | uniform k ih | normal k ih | choice _ k ih =>
    obtain ⟨h0, hr'⟩ := window_tail hr
    simp only [interp, draws, ticks, ← h0, Nat.add_right_cancel_iff]
    exact ih _ _ _ hr' hc
  | clock k ih =>
    obtain ⟨h0, hc'⟩ := window_tail hc
    simp only [interp, draws, ticks, ← h0, Nat.add_right_cancel_iff]
    exact ih _ _ _ hr hc'
  | objective _ k ih | hook k ih => exact ih _ _ _ hr hc

theorem ticks_noClock (p : Prog α) (w : World) (h : p.NoClock) : ticks f p w = 0 := by
  induction p generalizing w with
  | pure a => rfl
  | clock k ih => exact h.elim
  | uniform k ih | normal k ih | choice _ k ih | objective _ k ih | hook k ih => exact ih _ _ (h _)

/-- witness: a two-draw program returning both draws -/
def twoDraws : Prog (Int × Int) := .uniform fun a => .normal fun b => .pure (a, b)

/-- witness: a program that reads the clock once between a draw and an objective call -/
def timedEval : Prog (Int × Int) :=
  .uniform fun a => .clock fun t => .objective [a] fun y => .hook fun _ => .pure (y, t)

/-- **nothing reads `ambient`**: two worlds that agree on the generator (stream and position)
    and on the clock (stream and position) give the same result and the same final generator
    and clock states, whatever their `ambient` components; `ambient` itself is left as it was -/
theorem run_ambient_irrelevant (p : Prog α) (w1 w2 : World)
    (hr : w1.rng = w2.rng) (hp : w1.pos = w2.pos) (hc : w1.clock = w2.clock) (hcp : w1.cpos = w2.cpos) :
    (interp f p w1).1 = (interp f p w2).1 ∧
    (interp f p w1).2.rng = (interp f p w2).2.rng ∧ (interp f p w1).2.pos = (interp f p w2).2.pos ∧
    (interp f p w1).2.clock = (interp f p w2).2.clock ∧ (interp f p w1).2.cpos = (interp f p w2).2.cpos ∧
    (interp f p w1).2.ambient = w1.ambient ∧ (interp f p w2).2.ambient = w2.ambient := by
  obtain ⟨h1, h2, h3⟩ := run_depends_only_on_consumed f p w1 w2 (fun i _ => by rw [hr, hp]) (fun i _ => by rw [hc, hcp])
  rw [interp_final f p w1, interp_final f p w2]
  exact ⟨h1, hr, by show w1.pos + _ = w2.pos + _; rw [hp, h2], hc,
    by show w1.cpos + _ = w2.cpos + _; rw [hcp, h3], rfl, rfl⟩

/-- **clock-free programs**: without `clock` nodes the result (and the generator consumption)
    does not depend on the clock stream, the clock position or `ambient` at all -/
theorem run_clock_irrelevant_for (p : Prog α) (hnc : p.NoClock) (w1 w2 : World)
    (hr : w1.rng = w2.rng) (hp : w1.pos = w2.pos) :
    (interp f p w1).1 = (interp f p w2).1 ∧ (interp f p w1).2.pos = (interp f p w2).2.pos := by
  obtain ⟨h1, h2, _⟩ := run_depends_only_on_consumed f p w1 w2 (fun i _ => by rw [hr, hp])
    (fun i hi => by rw [ticks_noClock f p w1 hnc] at hi; exact absurd hi (Nat.not_lt_zero _))
  simp only [interp_final]
  exact ⟨h1, by rw [hp, h2]⟩

theorem run_noClock_ticks (p : Prog α) (hnc : p.NoClock) (w : World) :
    (interp f p w).2.cpos = w.cpos := by
  simp only [interp_final, ticks_noClock f p w hnc, Nat.add_zero]

/-- **in general the clock matters only through `clock` nodes**: with the same generator, two
    clocks that agree on the `ticks` readings the executed path takes (and may differ
    everywhere else) give the same result -/
theorem run_clock_only_through_reads (p : Prog α) (w1 w2 : World)
    (hr : w1.rng = w2.rng) (hp : w1.pos = w2.pos)
    (hc : ∀ i, i < ticks f p w1 → w1.clock (w1.cpos + i) = w2.clock (w2.cpos + i)) :
    (interp f p w1).1 = (interp f p w2).1 :=
  (run_depends_only_on_consumed f p w1 w2 (fun i _ => by rw [hr, hp]) hc).1

/-- **the stream is consumed, one element per draw**: final position = initial position +
    number of draw nodes on the executed path; the stream itself is not altered -/
theorem run_rng_position (p : Prog α) (w : World) :
    (interp f p w).2.pos = w.pos + draws f p w ∧ (interp f p w).2.rng = w.rng := by
  simp only [interp_final, and_self]

/-- the same for the clock -/
theorem run_clock_position (p : Prog α) (w : World) :
    (interp f p w).2.cpos = w.cpos + ticks f p w ∧ (interp f p w).2.clock = w.clock := by
  simp only [interp_final, and_self]

/-- a run that draws at least once ends strictly further in the stream: a second run in the
    same process does *not* see the same numbers unless it is re-seeded -/
theorem run_consumes (p : Prog α) (w : World) (h : 0 < draws f p w) : w.pos < (interp f p w).2.pos := by
  rw [(run_rng_position f p w).1]; exact Nat.lt_add_of_pos_right h

/-- **same seed ⇒ same result**: two freshly seeded worlds with the same seed and the same
    clock readings give the same result, whatever `ambient` is -/
theorem run_deterministic_in_seed (p : Prog α) (gen : Nat → Nat → Int) (seed : Nat)
    (clock : Nat → Int) (amb1 amb2 : Nat) :
    (interp f p (World.seeded gen seed clock amb1)).1 = (interp f p (World.seeded gen seed clock amb2)).1 :=
  (run_ambient_irrelevant f p (World.seeded gen seed clock amb1) (World.seeded gen seed clock amb2)
    rfl rfl rfl rfl).1

/-- for clock-free programs the seed alone decides: clocks and `ambient` may both differ -/
theorem run_deterministic_in_seed_noClock (p : Prog α) (hnc : p.NoClock) (gen : Nat → Nat → Int)
    (seed : Nat) (clock1 clock2 : Nat → Int) (amb1 amb2 : Nat) :
    (interp f p (World.seeded gen seed clock1 amb1)).1 = (interp f p (World.seeded gen seed clock2 amb2)).1 :=
  (run_clock_irrelevant_for f p hnc (World.seeded gen seed clock1 amb1)
    (World.seeded gen seed clock2 amb2) rfl rfl).1

/-- equal streams, possibly at different absolute offsets, also suffice (only the consumed
    window matters): this is "re-seeding restores the run" -/
theorem run_reseed (p : Prog α) (hnc : p.NoClock) (w1 w2 : World)
    (h : ∀ i, w1.rng (w1.pos + i) = w2.rng (w2.pos + i)) : (interp f p w1).1 = (interp f p w2).1 :=
  (run_depends_only_on_consumed f p w1 w2 (fun i _ => h i)
    (fun i hi => by rw [ticks_noClock f p w1 hnc] at hi; exact absurd hi (Nat.not_lt_zero _))).1

/-- different seeds are actually used: the two-draw program `twoDraws` returns
    different results for two different streams … -/
example :
    (interp (fun _ => 0) twoDraws (World.seeded (fun s i => s + i) 0 (fun _ => 0) 0)).1 = (0, 1) ∧
    (interp (fun _ => 0) twoDraws (World.seeded (fun s i => s + i) 7 (fun _ => 0) 0)).1 = (7, 8) := by
  decide +kernel
/-- … it consumes two elements, and running it again without re-seeding gives another result -/
example :
    let w := World.seeded (fun s i => s + i) 0 (fun _ => 0) 0
    draws (fun _ => 0) twoDraws w = 2 ∧ (interp (fun _ => 0) twoDraws w).2.pos = 2 ∧
    (interp (fun _ => 0) twoDraws (interp (fun _ => 0) twoDraws w).2).1 = (2, 3) := by
  decide +kernel
example : twoDraws.NoClock := by simp [twoDraws, Prog.NoClock]
/-- a program with a `clock` node does depend on the clock (so `NoClock` is not superfluous),
    but never on `ambient` -/
example :
    (interp (fun x => x.sum) timedEval ⟨fun i => i + 5, 0, fun _ => 100, 0, 1⟩).1 = (5, 100) ∧
    (interp (fun x => x.sum) timedEval ⟨fun i => i + 5, 0, fun _ => 200, 0, 2⟩).1 = (5, 200) := by
  decide +kernel

#print axioms run_ambient_irrelevant
#print axioms run_depends_only_on_consumed
#print axioms run_clock_irrelevant_for
#print axioms run_noClock_ticks
#print axioms run_clock_only_through_reads
#print axioms run_rng_position
#print axioms run_clock_position
#print axioms run_consumes
#print axioms run_deterministic_in_seed
#print axioms run_deterministic_in_seed_noClock
#print axioms run_reseed

end Opy
