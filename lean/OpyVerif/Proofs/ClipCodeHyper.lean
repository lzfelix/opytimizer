import OpyVerif.Proofs.ClipProg
import OpyVerif.Generated.ClipLoops.hyperClip_eq
/-!
C01 / C06 / C13 stated about the *translated* `HyperSpace.check_limits`: `Gen.hyperClip` is what
`harness/translate_loops.py` read from the current working tree.  Each theorem composes the regenerated
equality (`Generated/ClipLoops/hyperClip_eq.lean`), the meaning of the expected loop (`Proofs/ClipProg.lean`)
and the projection theorems of `Proofs/C06.lean`.
-/
namespace Opy

theorem code_hyperClip (lbs ubs : List Int) (pop : List Pos) :
    Gen.hyperClip.runAll lbs ubs pop = clipAllHyper (min lbs.length ubs.length) pop := by
  rw [Gen.hyperClip_eq]; exact hyperClip_run lbs ubs pop

/-- `HyperSpace.check_limits` (as translated) puts every agent of the declared shape inside the unit box,
    whatever the declared bounds are -/
theorem code_hyperClip_inUnitBox (lbs ubs : List Int) (pop : List Pos) (hl : lbs.length = ubs.length)
    (hs : ∀ p ∈ pop, p.length = lbs.length) :
    ∀ q ∈ Gen.hyperClip.runAll lbs ubs pop,
      InBox (List.replicate lbs.length keyZero) (List.replicate lbs.length keyOne) q := by
  rw [code_hyperClip, ← hl, Nat.min_self]
  exact List.forall_mem_map.mpr fun p hp => hs p hp ▸ clipHyper_inUnitBox p

end Opy
