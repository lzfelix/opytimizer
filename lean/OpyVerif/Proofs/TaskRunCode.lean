import OpyVerif.Proofs.TaskRunCodeBox
import OpyVerif.Proofs.SweepProg
import OpyVerif.Generated.Sweeps.genericSweep_eq
import OpyVerif.Generated.Sweeps.psoSweep_eq
/-!
The C02 task theorems of `Proofs/TaskRun.lean` about what the translator read from the working tree on this run: the two
evaluation sweeps (`Gen.genericSweep`, `Gen.psoSweep`) are the machine's rule (`code_*Sweep_isRule`); the skeletons and the
clip loops come from `TaskRunCodeSkel` (C03, C04) and `TaskRunCodeBox` (C01).  Every hypothesis about the program is
discharged by a regenerated obligation; what remains are the assumptions about the oracles (`OracleOK`, `BestKept`), i.e.
about the arithmetic of the updates and about the user's hook.  `TaskExample` at the end holds the objects the examples of
the task files share.
-/
namespace Opy
open Opy.Task

/-- the two sweeps of these optimisers, as translated -/
def Gen.taskSweeps : List SweepLoop := [Gen.genericSweep, Gen.psoSweep]

theorem code_taskSweeps_plain : ∀ sw ∈ Gen.taskSweeps, sw.plain = true := by
  intro sw h
  simp only [Gen.taskSweeps, List.mem_cons, List.not_mem_nil, or_false] at h
  rcases h with rfl | rfl
  · rcases Gen.genericSweep_eq with h | h <;> rw [h] <;> decide
  · rcases Gen.psoSweep_eq with h | h <;> rw [h] <;> decide

theorem code_genericSweep_isRule : IsRule Gen.genericSweep false := by
  rcases Gen.genericSweep_eq with h | h <;> rw [h]
  · exact ⟨false, fun lbs ubs tp v fresh a best => genericSweep_is_machine_rule ⟨0, false, lbs, ubs⟩ rfl a best v fresh tp⟩
  · exact ⟨true, fun lbs ubs tp v fresh a best => genericSweepLe_is_machine_rule ⟨0, false, lbs, ubs⟩ rfl a best v fresh tp⟩

theorem code_psoSweep_isRule : IsRule Gen.psoSweep true := by
  rcases Gen.psoSweep_eq with h | h <;> rw [h]
  · exact ⟨false, fun lbs ubs tp v fresh a best => psoSweep_is_machine_rule ⟨0, true, lbs, ubs⟩ rfl a best v fresh tp⟩
  · exact ⟨true, fun lbs ubs tp v fresh a best => psoSweepLe_is_machine_rule ⟨0, true, lbs, ubs⟩ rfl a best v fresh tp⟩

theorem code_taskSweeps_isRule : ∀ sw ∈ Gen.taskSweeps, ∃ swarm, IsRule sw swarm :=
  List.forall_mem_cons.mpr ⟨⟨false, code_genericSweep_isRule⟩, List.forall_mem_singleton.mpr ⟨true, code_psoSweep_isRule⟩⟩

section
variable (sk : Skeleton) (sw : SweepLoop) (hsw : sw ∈ Gen.taskSweeps)
include hsw

/-- **C02.**  The best agent's fitness bounds every value a sweep obtained and every recorded best fitness from below, and
    the recorded best fitnesses never increase (optimisers whose updates leave the best agent alone). -/
theorem code_task_best (c : ClipLoop) (lbs ubs : List Int) (o : TaskOracle) (hk : BestKept o) (pop : List Ag) (best : Ag) (N : Nat) :
    BestInv (TaskProg.runTask ⟨sk, c, sw⟩ lbs ubs o (TaskSt.start pop best) N) := by
  obtain ⟨swarm, hr⟩ := code_taskSweeps_isRule sw hsw
  exact task_best ⟨sk, c, sw⟩ lbs ubs o swarm hr hk pop best N

end

/-- **C01, best agent (search spaces, generic sweep).**  The best agent reported is the one the task was handed or feasible. -/
theorem code_task_best_inBox (sk : Skeleton) (hsk : sk ∈ Gen.taskSkeletons) (lbs ubs : List Int) (hb : BoundsOk lbs ubs)
    (o : TaskOracle) (ho : OracleOK lbs.length lbs ubs o) (hk : BestKept o)
    (pop : List Ag) (best : Ag) (h0 : ∀ a ∈ pop, InBox lbs ubs a.pos) (N : Nat) :
    (TaskProg.runTask ⟨sk, Gen.searchClip, Gen.genericSweep⟩ lbs ubs o (TaskSt.start pop best) N).best = best ∨
    InBox lbs ubs (TaskProg.runTask ⟨sk, Gen.searchClip, Gen.genericSweep⟩ lbs ubs o (TaskSt.start pop best) N).best.pos :=
  task_best_inBox ⟨sk, Gen.searchClip, Gen.genericSweep⟩ lbs ubs o (code_taskSkeletons_good sk hsk) lbs ubs
    (code_searchClip_clipsInto lbs ubs hb) ho code_genericSweep_isRule hk pop best h0 N

/-- **C02 in full (generic sweep).**  With an objective below the sentinel and a non-empty population the reported best is, from
    the first sweep on, an evaluated pair whose fitness is the minimum of everything the sweeps evaluated. -/
theorem code_task_best_is_min (sk : Skeleton) (hsk : sk ∈ Gen.taskSkeletons) (c : ClipLoop) (lbs ubs : List Int)
    (o : TaskOracle) (hk : BestKept o) (pop : List Ag) (best : Ag) (hlt : ∀ x, o.f x < best.fit)
    (hne : (o.hook 0 (pop, best)).1 ≠ []) (N : Nat) :
    let s := TaskProg.runTask ⟨sk, c, Gen.genericSweep⟩ lbs ubs o (TaskSt.start pop best) N
    (s.best.pos, s.best.fit) ∈ s.evals ∧ ∀ e ∈ s.evals, s.best.fit ≤ e.2 :=
  task_best_is_min ⟨sk, c, Gen.genericSweep⟩ lbs ubs o (code_taskSkeletons_good sk hsk) code_genericSweep_isRule hk pop best hlt hne N

/-! ### the hypotheses are satisfiable; the model runs (tests, not theorems about all inputs) -/

namespace TaskExample
def a0 : Ag := { pos := [[5]], tpos := [[5]], fit := 100, ref := 0 }
def b0 : Ag := { pos := [[0]], tpos := [[0]], fit := 1000, ref := 1 }
/-- objective `x ↦ x`; every update throws the only agent to 25, beyond the box [0, 10]; observer hook; no post step -/
def o0 : TaskOracle :=
  { f := fun p => (p.head?.bind List.head?).getD 0,
    upd := fun _ st => ([{ a0 with pos := [[25]] }], st.2), hook := fun _ st => st, post := fun _ st => st }

example : OracleOK 1 [0] [10] o0 :=
  ⟨by intro k st a ha; simp [o0] at ha; subst ha; rfl, fun _ _ h => h⟩
example : BestKept o0 := ⟨fun _ _ => rfl, fun _ _ => rfl, fun _ _ => rfl⟩
example : BoundsOk [0] [10] ∧ ∀ a ∈ [a0], InBox [0] [10] a.pos :=
  ⟨⟨by decide, trivial⟩, fun a ha => by
    rw [List.mem_singleton.mp ha]
    exact ⟨fun x hx => by rw [List.mem_singleton.mp hx]; decide, trivial⟩⟩
example : Gen.skel_HC ∈ Gen.taskSkeletons ∧ Gen.genericSweep ∈ Gen.taskSweeps := by simp [Gen.taskSkeletons, Gen.taskSweeps]
/-- HC for two iterations: the sweeps see 5, then the clipped 10 twice; the best agent ends as (5, 5); two records -/
example :
    let s := TaskProg.runTask ⟨Gen.skel_HC, Gen.searchClip, Gen.genericSweep⟩ [0] [10] o0 (TaskSt.start [a0] b0) 2
    s.evals = [([[5]], 5), ([[10]], 10), ([[10]], 10)] ∧ record s.best = ([[5]], 5) ∧ s.hookOut = s.sweepArgs ∧
      s.dumps = [([([[10]], 10)], ([[5]], 5)), ([([[10]], 10)], ([[5]], 5))] := by decide +kernel
end TaskExample

end Opy
