import OpyVerif.Proofs.HistCodeGet
import OpyVerif.Proofs.HistCodeStart
-- imports only (`History.get` and `Opytimizer.start`, one module per regenerated obligation): `harness/registry.py` names this module
