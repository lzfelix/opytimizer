import OpyVerif.Model.BfsProg
import OpyVerif.Proofs.Lemmas.TreeLemmas
/-!
The expected reading of `_properties` computes `PNode.properties` (the model `Proofs/C11.properties_eq`
speaks about), for every tree.  Core Lean only.
-/
namespace Opy
open PNode

/-- one round of the `for` body is one step of `level` -/
theorem perNode_step (n : PNode) (hn : n ≠ nil) (s : BState) :
    Expected.bfsProg.perNode.run n s =
      ⟨if n.childless && s.minD == 0 then s.maxD.toNat else s.minD, s.maxD,
       if n.childless then s.leaves + 1 else s.leaves, s.nodes + 1, s.next ++ n.kids⟩ := by
  cases n with
  | nil => exact absurd rfl hn
  | mk i lb p f l r =>
    -- the three tests of the `for` body
    cases hl : l.isNil <;> cases hr : r.isNil <;> cases h0 : s.minD == 0 <;>
      simp [Expected.bfsProg, BStmt.run, BCond.eval, childless, kids, leftOf, rightOf, hl, hr, h0]

theorem fold_is_level (nodes : List PNode) (hnn : ∀ n ∈ nodes, n ≠ nil) (s : BState) :
    nodes.foldl (fun acc n => Expected.bfsProg.perNode.run n acc) s =
      (let r := level s.maxD.toNat nodes (s.minD, s.leaves, s.nodes, s.next)
       ⟨r.1, s.maxD, r.2.1, r.2.2.1, r.2.2.2⟩) := by
  induction nodes generalizing s with
  | nil => simp [level]
  | cons n ns ih =>
    have hns : ∀ m ∈ ns, m ≠ nil := fun m hm => hnn m (List.mem_cons_of_mem _ hm)
    simp only [List.foldl_cons, perNode_step n (hnn n List.mem_cons_self) s, ih hns, level]

theorem loop_is_bfs (fuel : Nat) (nodes : List PNode) (hnn : ∀ n ∈ nodes, n ≠ nil) (s : BState) :
    (let r := Expected.bfsProg.loop fuel nodes s; (⟨r.minD, r.maxD, r.leaves, r.nodes⟩ : Props)) =
      bfs fuel nodes s.maxD s.minD s.leaves s.nodes := by
  induction fuel generalizing nodes s with
  | zero => simp [BfsProg.loop, bfs]
  | succ k ih =>
    cases nodes with
    | nil => simp [BfsProg.loop, bfs]
    | cons n ns =>
      simp only [BfsProg.loop, bfs]
      have hl : Expected.bfsProg.perLevel.run nil { s with next := [] } = ⟨s.minD, s.maxD + 1, s.leaves, s.nodes, []⟩ := by
        simp [Expected.bfsProg, BStmt.run]
      rw [hl, fold_is_level (n :: ns) hnn]
      simp only [show Expected.bfsProg.swaps = true from rfl, if_true, level_spec, List.nil_append]
      exact ih _ (fkids_ne_nil _) _

/-- the expected reading of `_properties` is the model's `properties`, for every non-empty tree -/
theorem bfsProg_is_properties (t : PNode) (h : t ≠ nil) : Expected.bfsProg.run t = t.properties := by
  unfold BfsProg.run properties
  have := loop_is_bfs (t.maxD + 2) [t] (by simpa using h) ⟨0, -1, 0, 0, []⟩
  simpa [Expected.bfsProg] using this

end Opy
