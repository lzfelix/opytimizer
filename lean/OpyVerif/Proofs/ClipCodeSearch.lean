import OpyVerif.Proofs.ClipProg
import OpyVerif.Generated.ClipLoops.searchClip_eq
/-!
C01 / C06 / C13 stated about the *translated* `SearchSpace.check_limits`: `Gen.searchClip` is what
`harness/translate_loops.py` read from the current working tree.  Each theorem composes the regenerated
equality (`Generated/ClipLoops/searchClip_eq.lean`), the meaning of the expected loop (`Proofs/ClipProg.lean`)
and the projection theorems of `Proofs/C06.lean`.
-/
namespace Opy

theorem code_searchClip (lbs ubs : List Int) (pop : List Pos) : Gen.searchClip.runAll lbs ubs pop = clipAll lbs ubs pop := by
  rw [Gen.searchClip_eq]; exact searchClip_run lbs ubs pop

/-- `SearchSpace.check_limits` (as translated) puts every agent inside the declared box -/
theorem code_searchClip_inBox (lbs ubs : List Int) (pop : List Pos) (hb : BoundsOk lbs ubs)
    (hl : ∀ p ∈ pop, p.length = lbs.length) :
    ∀ q ∈ Gen.searchClip.runAll lbs ubs pop, InBox lbs ubs q := by
  rw [code_searchClip]; exact clipAll_inBox lbs ubs pop hb (fun p hp => (hl p hp).symm)

end Opy
