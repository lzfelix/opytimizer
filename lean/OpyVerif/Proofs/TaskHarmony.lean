import OpyVerif.Proofs.C20
/-!
Harmony search (HS / IHS) over any number of updates: the harmony memory, read as the sorted vector of its fitness values, after
any sequence of "replace the worst member if the new harmony is strictly better" steps (`replaceWorst`, the update as
`HS._update` performs it on the sorted memory) is still sorted, has the same size, and is rank-wise no worse than before — for every
sequence of new-harmony values, i.e. for every iteration count, objective and random stream.  (One step is
`replaceWorst_antitone` in `Proofs/C20.lean`.  Nothing here is about `runTask`.)
-/
namespace Opy

theorem hsMemory_iter (vs : List Int) (l : List Int) (hs : l.Pairwise (· ≤ ·)) :
    (vs.foldl (fun m v => replaceWorst v m) l).Pairwise (· ≤ ·) ∧
    (vs.foldl (fun m v => replaceWorst v m) l).length = l.length ∧
    ∀ i (h1 : i < (vs.foldl (fun m v => replaceWorst v m) l).length) (h2 : i < l.length),
      (vs.foldl (fun m v => replaceWorst v m) l)[i] ≤ l[i] := by
  induction vs generalizing l with
  | nil => exact ⟨hs, rfl, fun i _ _ => Int.le_refl _⟩
  | cons v vs ih =>
    obtain ⟨s1, n1, r1⟩ := replaceWorst_antitone v l hs
    obtain ⟨s2, n2, r2⟩ := ih (replaceWorst v l) s1
    simp only [List.foldl_cons]
    refine ⟨s2, by rw [n2, n1], ?_⟩
    intro i h1 h2
    have h3 : i < (replaceWorst v l).length := by rw [n1]; exact h2
    exact Int.le_trans (r2 i h1 h3) (r1 i h3 h2)

/-- memory `[1, 4, 6, 9]`; new harmonies 5, 12, 0, 3: ranks only improve -/
example : [5, 12, 0, 3].foldl (fun m v => replaceWorst v m) [1, 4, 6, 9] = [0, 1, 3, 4] := by decide +kernel

end Opy
