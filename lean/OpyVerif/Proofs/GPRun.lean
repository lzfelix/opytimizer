import OpyVerif.Proofs.PopLoops
import OpyVerif.Proofs.TreesProg
import OpyVerif.Proofs.Lemmas.ReproLemmas
import OpyVerif.Model.GPRun
/-!
C08, population clause, for a whole GP task: from the forest the constructor builds, through every iteration
(reproduction, crossover, mutation as the loops are read from the source, then the sweep's best-tree records), the forest
stays a family of `n_trees` proper expression trees no two of which share a node, and the best tree shares no node
with any of them.
-/
namespace Opy
open PNode

theorem steps_of_unconditional {ar : Nat → Nat} {γ : Type} {g : γ → GPOp} {l : List γ} {P P' : Pop}
    (h : runGPOps ar P (l.map g) = some P') (hg : ∀ x Q, (g x).admissible ar Q) : Steps ar (fun _ => True) P P' := by
  refine Steps.of_run ?_ (fun _ _ _ _ => trivial) h
  clear h
  induction l generalizing P with
  | nil => trivial
  | cons x l ih => exact ⟨hg x P, fun _ _ => ih⟩

theorem bind3_some {a : Option Pop} {f : Pop → Option Pop} {P' : Pop} (h : bind3 a f = some P') :
    ∃ P, a = some P ∧ f P = some P' := by
  cases a with
  | none => cases h
  | some P => exact ⟨P, rfl, h⟩

/-- what `space.grow` returns during the mutation loop of an iteration is fresh for the forest as it is then -/
def IterOK (ar : Nat → Nat) (P : Pop) (i : IterInput) : Prop :=
  ∀ P1 P2, runGPOps ar P (reproOps i.fit i.selR) = some P1 → Expected.crossLoop.run P1 i.selC i.drawsC = some P2 →
    GrownFresh ar P2.next i.grownM

theorem gpIteration_steps {ar : Nat → Nat} {P P' : Pop} {i : IterInput} (hok : IterOK ar P i)
    (h : gpIteration ar Expected.updateProg Expected.mutLoop Expected.crossLoop P i = some P') :
    Steps ar (fun _ => True) P P' := by
  simp only [gpIteration, Expected.updateProg, if_true] at h
  obtain ⟨P1, h1, h⟩ := bind3_some h
  obtain ⟨P2, h2, h⟩ := bind3_some h
  obtain ⟨P3, h3, h⟩ := bind3_some h
  have hg := hok P1 P2 h1 h2
  rw [crossLoop_run] at h2
  rw [mutLoop_run] at h3
  exact ((steps_of_unconditional h1 fun _ _ => trivial).trans
    (runCrossPairs_steps (fun _ _ => ⟨trivial, trivial⟩) h2)).trans
    ((runMut_steps (fun _ _ => trivial) hg h3).trans (steps_of_unconditional h fun _ _ => trivial))

/-- **one iteration keeps the forest proper** -/
theorem gpIteration_popOK {ar : Nat → Nat} (P P' : Pop) (i : IterInput) (hP : PopOK ar P) (hn : 0 < P.next)
    (hok : IterOK ar P i)
    (h : gpIteration ar Expected.updateProg Expected.mutLoop Expected.crossLoop P i = some P') :
    PopOK ar P' ∧ P'.trees.length = P.trees.length ∧ 0 < P'.next :=
  have ⟨a, b, c, _⟩ := (gpIteration_steps hok h).inv hP
  ⟨a, c, Nat.lt_of_lt_of_le hn b⟩

/-- the slots `reproPairs` names are the slots the model of `GP._reproduction` overwrites, with copies of the individuals it
    names (for a tournament outcome that names existing individuals — `tournament_spec`): the tree list `reproduction`
    returns is the fold of "slot := copy of source" over those pairs -/
theorem reproduction_trees_pairs {α β : Type} (cpT : α → α) (cpA : β → β) : ∀ (selected : List Nat) (trees : List α) (agents : List β)
    (fit : List Int), trees.length = agents.length → (∀ s ∈ selected, s < trees.length) →
    (reproduction cpT cpA trees agents fit selected).1 =
      (reproPairs fit selected).foldl (fun ts p => match ts[p.2]? with | some t => ts.set p.1 (cpT t) | none => ts) trees := by
  intro selected
  induction selected with
  | nil => intro trees agents fit _ _; rfl
  | cons s ss ih =>
    intro trees agents fit hl hsel
    have hsel := List.forall_mem_cons.1 hsel
    rw [reproduction, List.foldl_cons, reproStep_eq_of_lt cpT cpA hsel.1 (hl ▸ hsel.1), reproPairs, List.foldl_cons]
    simp only [List.getElem?_eq_getElem hsel.1]
    exact ih _ _ _ (by rw [List.length_set, List.length_set]; exact hl)
      (fun x hx => Nat.lt_of_lt_of_eq (hsel.2 x hx) List.length_set.symm)

/-- freshness along a whole task -/
def RunOK (ar : Nat → Nat) : Pop → List IterInput → Prop
  | _, [] => True
  | P, i :: is => IterOK ar P i ∧
      ∀ P', gpIteration ar Expected.updateProg Expected.mutLoop Expected.crossLoop P i = some P' → RunOK ar P' is

theorem gpIterations_steps {ar : Nat → Nat} {is : List IterInput} {P P' : Pop} (hok : RunOK ar P is)
    (h : gpIterations ar Expected.updateProg Expected.mutLoop Expected.crossLoop P is = some P') :
    Steps ar (fun _ => True) P P' := by
  fun_induction gpIterations ar Expected.updateProg Expected.mutLoop Expected.crossLoop P is
  case case1 => cases h; exact .refl _
  case case2 P i is P1 hi ih => exact (gpIteration_steps hok.1 hi).trans (ih (hok.2 P1 hi) h)
  case case3 => cases h

theorem gpIterations_popOK {ar : Nat → Nat} : ∀ (is : List IterInput) (P P' : Pop), PopOK ar P → 0 < P.next → RunOK ar P is →
    gpIterations ar Expected.updateProg Expected.mutLoop Expected.crossLoop P is = some P' →
    PopOK ar P' ∧ P'.trees.length = P.trees.length :=
  fun _ _ _ hP _ hok h =>
    have ⟨a, _, c, _⟩ := (gpIterations_steps hok h).inv hP
    ⟨a, c⟩

/-- **the whole task, from the constructor on**: the forest `_create_trees` builds, the initial sweep's best-tree records and
    any number of iterations leave `n_trees` proper trees no two of which share a node, and a best tree disjoint from all -/
theorem gpTask_popOK (cfg : GrowCfg) (k n : Nat) (draws : List Nat) (nid : Nat) (P0 P1 P' : Pop) (bests0 : List Nat)
    (is : List IterInput)
    (h0 : Expected.treesProg.run cfg k n draws nid = some P0)
    (hb : runGPOps cfg.ar P0 (bests0.map GPOp.recordBest) = some P1) (hok : RunOK cfg.ar P1 is)
    (h : gpTask cfg.ar Expected.updateProg Expected.mutLoop Expected.crossLoop P0 bests0 is = some P') :
    PopOK cfg.ar P' ∧ P'.trees.length = n := by
  obtain ⟨ok0, len0, _, _⟩ := treesProg_popOK cfg k n draws nid P0 h0
  -- `RunOK` speaks about the population after the initial best-tree records: hence `P1` and `hb` beside `h`
  simp only [gpTask, hb, bind3] at h
  obtain ⟨a, _, c, _⟩ := ((steps_of_unconditional hb fun _ _ => trivial).trans (gpIterations_steps hok h)).inv ok0
  exact ⟨a, c.trans len0⟩

/-- the inputs of one iteration; `P` is read only for its mark, which places the grown branch -/
def iterE (P : Pop) : IterInput :=
  { fit := [3, 1, 7], selR := [0], selC := [0, 1], drawsC := [(2, 2)], selM := [1], pointsM := [1],
    grownM := [shift (2 * (9 * P.next) - 25) branchE], bests := [1] }

/-- non-vacuity: a whole task on the concrete forest of `Proofs/Forest.lean` — initial best, then one iteration with a
    reproduction (slot 2, the first maximum of the fitness, receives a copy of tree 0), a crossover of trees 0 and 1, a
    mutation of tree 1 with a grown branch that is fresh at that moment, and a new best tree — runs through -/
example : ((gpTask cfgE.ar Expected.updateProg Expected.mutLoop Expected.crossLoop
      ((Expected.treesProg.run cfgE 2 3 drawsE 1).getD ⟨[], .nil, 1⟩) [2]
      [iterE ⟨[], .nil, 3 * 22⟩]).map fun P' => (P'.trees.length, P'.best.isNil)) = some (3, false) := by decide +kernel
end Opy
