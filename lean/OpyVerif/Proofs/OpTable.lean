import OpyVerif.Proofs.Lemmas.EvalLemmas
/-!
`Model/TreeEval`'s operator tables are the semantics of `expectedOps`, entry by entry; the
generated file proves that the table read from the current source *is* `expectedOps`.
-/
namespace Opy

theorem binOp_is_expected {α : Type} [Elem α] (e0 : α) :
    ∀ code, code < 4 → ∃ e, (expectedOps[code]?).map (·.2) = some e ∧
      binOp e0 code = some (fun x y => e.eval e0 x y) := by
  intro code h
  rcases ops_cases e0 code with ⟨_, _, _, e, h1, _, h3⟩ | ⟨h4, _⟩ | ⟨h10, _⟩
  · exact ⟨e, by rw [h1]; rfl, h3⟩
  · exact absurd h4 (Nat.not_le.2 h)
  · exact absurd (Nat.le_trans (by decide) h10) (Nat.not_le.2 h)

theorem unOp_is_expected {α : Type} [Elem α] (e0 : α) :
    ∀ code, 4 ≤ code → code < 10 → ∃ e, (expectedOps[code]?).map (·.2) = some e ∧
      unOp e0 code = some (fun x => e.eval e0 x x) := by
  intro code h h'
  rcases ops_cases e0 code with ⟨h4, _⟩ | ⟨_, _, _, _, e, h1, _, _, h4⟩ | ⟨h10, _⟩
  · exact absurd h (Nat.not_le.2 h4)
  · exact ⟨e, by rw [h1]; rfl, h4⟩
  · exact absurd h10 (Nat.not_le.2 h')

end Opy
