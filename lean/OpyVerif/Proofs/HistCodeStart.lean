import OpyVerif.Model.HistProg
import OpyVerif.Generated.HistProg.startProg_eq
/-!
C04 about the *translated* `Opytimizer.start`: the `time` record.
-/
namespace Opy

/-- the translated `start` returns the run's history with exactly one more `time` record, the difference of the clock
    readings taken right before and right after the run -/
theorem code_start_time (keys : List String) (h : Hist) (t0 t1 : Int) (hk : keys.contains "time" = false) :
    ∃ h', Gen.startProg.run keys h t0 t1 = some h' ∧ h'.attrs = appendAttr h.attrs "time" (.num (t1 - t0)) := by
  rw [Gen.startProg_eq]
  exact ⟨_, startProg_is_startTask keys h t0 t1, startTask_time keys h t0 t1 hk⟩

end Opy
