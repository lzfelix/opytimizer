import OpyVerif.Model.Clip
/-!
C06 — spaces start feasible; limit enforcement is an exact projection onto the box.
All statements are over keys (hence over every non-NaN double, ±∞ included).
-/
namespace Opy

theorem clip_mem (lb ub x : Int) (h : lb ≤ ub) : lb ≤ clip lb ub x ∧ clip lb ub x ≤ ub :=
  ⟨Int.le_min.mpr ⟨Int.le_max_right x lb, h⟩, Int.min_le_right _ _⟩

/-- in-range coordinates are left bit-identical -/
theorem clip_fixed (lb ub x : Int) (h1 : lb ≤ x) (h2 : x ≤ ub) : clip lb ub x = x := by
  rw [clip, Int.max_eq_left h1, Int.min_eq_left h2]

/-- below the range → exactly the lower bound (the nearest point of the box) -/
theorem clip_low (lb ub x : Int) (h : lb ≤ ub) (hx : x < lb) : clip lb ub x = lb := by
  rw [clip, Int.max_eq_right (Int.le_of_lt hx), Int.min_eq_left h]

/-- above the range → exactly the upper bound -/
theorem clip_high (lb ub x : Int) (h : lb ≤ ub) (hx : ub < x) : clip lb ub x = ub := by
  rw [clip, Int.max_eq_left (Int.le_trans h (Int.le_of_lt hx)), Int.min_eq_right (Int.le_of_lt hx)]

theorem clip_idem (lb ub x : Int) (h : lb ≤ ub) : clip lb ub (clip lb ub x) = clip lb ub x :=
  clip_fixed lb ub _ (clip_mem lb ub x h).1 (clip_mem lb ub x h).2

/-- `clip` is the metric projection: no point of `[lb, ub]` is closer to `x`. -/
theorem clip_nearest (lb ub x y : Int) (h : lb ≤ ub) (hy1 : lb ≤ y) (hy2 : y ≤ ub) :
    (x - clip lb ub x).natAbs ≤ (x - y).natAbs := by
  by_cases h1 : x < lb
  · rw [clip_low lb ub x h h1]; omega
  · by_cases h2 : ub < x
    · rw [clip_high lb ub x h h2]; omega
    · rw [clip_fixed lb ub x (Int.not_lt.mp h1) (Int.not_lt.mp h2), Int.sub_self]; exact Nat.zero_le _

theorem clipRow_length (lb ub : Int) (r : List Int) : (clipRow lb ub r).length = r.length := by
  simp [clipRow]

theorem clipRow_mem (lb ub : Int) (r : List Int) (h : lb ≤ ub) :
    ∀ y ∈ clipRow lb ub r, lb ≤ y ∧ y ≤ ub :=
  List.forall_mem_map.mpr fun x _ => clip_mem lb ub x h

theorem clipRow_fixed (lb ub : Int) (r : List Int) (h : ∀ x ∈ r, lb ≤ x ∧ x ≤ ub) :
    clipRow lb ub r = r := by
  rw [clipRow, List.map_congr_left (g := id) fun x hx => clip_fixed lb ub x (h x hx).1 (h x hx).2, List.map_id]

theorem clipRow_get (lb ub : Int) (r : List Int) (i : Nat) (hi : i < r.length) :
    (clipRow lb ub r)[i]'(by simpa [clipRow] using hi) = clip lb ub r[i] := by
  simp [clipRow]

/-- the recursion of `clipPos`, `InBox` and `inBoxB`: bounds and rows in step, until one of the three lists ends -/
theorem boxInduct {motive : List Int → List Int → Pos → Prop}
    (step : ∀ l lbs u ubs r rows, motive lbs ubs rows → motive (l :: lbs) (u :: ubs) (r :: rows))
    (stop : ∀ lbs ubs rows, lbs = [] ∨ ubs = [] ∨ rows = [] → motive lbs ubs rows) :
    ∀ lbs ubs rows, motive lbs ubs rows
  | _ :: lbs, _ :: ubs, _ :: rows => step _ _ _ _ _ _ (boxInduct step stop lbs ubs rows)
  | [], _, _ => stop _ _ _ (.inl rfl)
  | _ :: _, [], _ => stop _ _ _ (.inr (.inl rfl))
  | _ :: _, _ :: _, [] => stop _ _ _ (.inr (.inr rfl))

@[simp] theorem clipPos_cons (l u : Int) (lbs ubs : List Int) (r : List Int) (rows : Pos) :
    clipPos (l :: lbs) (u :: ubs) (r :: rows) = clipRow l u r :: clipPos lbs ubs rows := rfl

theorem clipPos_stop (lbs ubs : List Int) (p : Pos) (h : lbs = [] ∨ ubs = [] ∨ p = []) :
    clipPos lbs ubs p = p := by
  rcases h with rfl | rfl | rfl
  · rfl
  · cases lbs <;> rfl
  · cases lbs <;> cases ubs <;> rfl

theorem inBox_length (lbs ubs : List Int) (p : Pos) (h : InBox lbs ubs p) :
    p.length = lbs.length := by
  fun_induction InBox lbs ubs p with
  | case1 l lbs u ubs r rows ih => rw [List.length_cons, List.length_cons, ih h.2]
  | case2 => rfl
  | case3 => exact h.elim

theorem clipPos_length (lbs ubs : List Int) (p : Pos) : (clipPos lbs ubs p).length = p.length := by
  induction lbs, ubs, p using boxInduct with
  | step l lbs u ubs r rows ih => simp [ih]
  | stop lbs ubs p h => rw [clipPos_stop lbs ubs p h]

theorem clipPos_shape (lbs ubs : List Int) (p : Pos) (v d : Nat) (h : Shape v d p) :
    Shape v d (clipPos lbs ubs p) := by
  refine ⟨by rw [clipPos_length]; exact h.1, ?_⟩
  have h2 := h.2
  clear h
  induction lbs, ubs, p using boxInduct with
  | step l lbs u ubs r rows ih =>
    simp only [clipPos_cons, List.forall_mem_cons, clipRow_length] at h2 ⊢
    exact ⟨h2.1, ih h2.2⟩
  | stop lbs ubs p h => rwa [clipPos_stop lbs ubs p h]

/-- after enforcing limits every entry lies inside its variable's box — for *any* input
    position (out of range, ±∞ keys, …), one bound pair per row, `lb ≤ ub` point-wise. -/
theorem clipPos_inBox (lbs ubs : List Int) (p : Pos) (hb : BoundsOk lbs ubs)
    (hl : lbs.length = p.length) : InBox lbs ubs (clipPos lbs ubs p) := by
  fun_induction BoundsOk lbs ubs generalizing p with
  | case1 l lbs u ubs ih =>
    cases p with
    | nil => cases hl
    | cons r rows => exact ⟨clipRow_mem l u r hb.1, ih rows hb.2 (Nat.succ.inj hl)⟩
  | case2 => rw [List.eq_nil_of_length_eq_zero hl.symm]; trivial
  | case3 => exact hb.elim

/-- feasible positions are left bit-identical -/
theorem clipPos_fixed (lbs ubs : List Int) (p : Pos) (h : InBox lbs ubs p) :
    clipPos lbs ubs p = p := by
  induction lbs, ubs, p using boxInduct with
  | step l lbs u ubs r rows ih => rw [clipPos_cons, clipRow_fixed l u r h.1, ih h.2]
  | stop lbs ubs p h' => exact clipPos_stop lbs ubs p h'

theorem clipPos_idem (lbs ubs : List Int) (p : Pos) (hb : BoundsOk lbs ubs)
    (hl : lbs.length = p.length) : clipPos lbs ubs (clipPos lbs ubs p) = clipPos lbs ubs p :=
  clipPos_fixed lbs ubs _ (clipPos_inBox lbs ubs p hb hl)

/-- row `j` of the result is `clipRow lb_j ub_j` of row `j` of the input (entry by entry: `clipRow_get`):
    out-of-range coordinates go to the nearest bound, the others stay (see `clip_*`). -/
theorem clipPos_entry (lbs ubs : List Int) (p : Pos) (j : Nat)
    (hj : j < p.length) (hjl : j < lbs.length) (hju : j < ubs.length) :
    (clipPos lbs ubs p)[j]'(by rw [clipPos_length]; exact hj) = clipRow lbs[j] ubs[j] p[j] := by
  induction lbs, ubs, p using boxInduct generalizing j with
  | step l lbs u ubs r rows ih =>
    cases j with
    | zero => rfl
    | succ j => exact ih j (by simpa using hj) (by simpa using hjl) (by simpa using hju)
  | stop lbs ubs p h => rcases h with rfl | rfl | rfl <;> simp at hj hjl hju

theorem clipAll_length (lbs ubs : List Int) (pop : List Pos) :
    (clipAll lbs ubs pop).length = pop.length := by simp [clipAll]

theorem clipAll_inBox (lbs ubs : List Int) (pop : List Pos) (hb : BoundsOk lbs ubs)
    (hl : ∀ p ∈ pop, lbs.length = p.length) : ∀ q ∈ clipAll lbs ubs pop, InBox lbs ubs q :=
  List.forall_mem_map.mpr fun p hp => clipPos_inBox lbs ubs p hb (hl p hp)

theorem clipAll_idem (lbs ubs : List Int) (pop : List Pos) (hb : BoundsOk lbs ubs)
    (hl : ∀ p ∈ pop, lbs.length = p.length) :
    clipAll lbs ubs (clipAll lbs ubs pop) = clipAll lbs ubs pop := by
  rw [clipAll, clipAll, List.map_map]
  exact List.map_congr_left fun p hp => clipPos_idem lbs ubs p hb (hl p hp)

theorem boundsOk_unit (n : Nat) : BoundsOk (List.replicate n keyZero) (List.replicate n keyOne) := by
  induction n with
  | zero => simp [BoundsOk]
  | succ n ih => simp only [List.replicate_succ, BoundsOk]; exact ⟨by decide, ih⟩

/-- hypercomplex spaces clip to the unit box whatever the declared bounds -/
theorem clipHyper_inUnitBox (p : Pos) :
    InBox (List.replicate p.length keyZero) (List.replicate p.length keyOne) (clipHyper p.length p) :=
  clipPos_inBox _ _ p (boundsOk_unit _) (by simp)

theorem clipHyper_idem (p : Pos) : clipHyper p.length (clipHyper p.length p) = clipHyper p.length p :=
  clipPos_idem _ _ p (boundsOk_unit _) (by simp)

theorem clipHyper_fixed (p : Pos)
    (h : InBox (List.replicate p.length keyZero) (List.replicate p.length keyOne) p) :
    clipHyper p.length p = p := clipPos_fixed _ _ p h

theorem initSearch_length (lbs ubs : List Int) (draws : List Pos) :
    (initSearch lbs ubs draws).length = draws.length := by simp [initSearch]

/-- draws inside `[lb_j, ub_j]` (what `uniform(lb_j, ub_j)` returns, `high` included after
    rounding) give feasible agents that carry the declared bounds -/
theorem initSearch_feasible (lbs ubs : List Int) (draws : List Pos)
    (h : ∀ p ∈ draws, InBox lbs ubs p) :
    ∀ a ∈ initSearch lbs ubs draws, InBox lbs ubs a.pos ∧ a.lb = lbs ∧ a.ub = ubs :=
  List.forall_mem_map.mpr fun p hp => ⟨h p hp, rfl, rfl⟩

theorem initHyper_feasible (v : Nat) (draws : List Pos)
    (h : ∀ p ∈ draws, InBox (List.replicate v keyZero) (List.replicate v keyOne) p) :
    ∀ a ∈ initHyper v draws,
      InBox (List.replicate v keyZero) (List.replicate v keyOne) a.pos ∧
      a.lb = List.replicate v keyZero ∧ a.ub = List.replicate v keyOne :=
  initSearch_feasible _ _ draws h

/-- the agent's own `check_limits` is the identity on a freshly built agent -/
theorem initSearch_clip_noop (lbs ubs : List Int) (draws : List Pos)
    (h : ∀ p ∈ draws, InBox lbs ubs p) :
    ∀ a ∈ initSearch lbs ubs draws, clipPos a.lb a.ub a.pos = a.pos := by
  intro a ha
  obtain ⟨h1, h2, h3⟩ := initSearch_feasible lbs ubs draws h a ha
  rw [h2, h3]; exact clipPos_fixed lbs ubs a.pos h1

theorem inBoxB_iff (lbs ubs : List Int) (p : Pos) : inBoxB lbs ubs p = true ↔ InBox lbs ubs p := by
  fun_induction InBox lbs ubs p with
  | case1 l lbs u ubs r rows ih =>
    simp only [inBoxB, Bool.and_eq_true, List.all_eq_true, decide_eq_true_eq, ih]
  | case2 => simp [inBoxB]
  | case3 lbs ubs p h1 h2 => simp [inBoxB.eq_3 _ _ _ h1 h2]

/-- non-vacuity: a concrete box and an out-of-range position (incl. a "huge" key) -/
example : clipPos [-5, 0] [5, 0] [[-9, 3, 99999999999], [7, -7, 0]] = [[-5, 3, 5], [0, 0, 0]] := by decide +kernel
example : BoundsOk [-5, 0] [5, 0] := by simp [BoundsOk]

end Opy
