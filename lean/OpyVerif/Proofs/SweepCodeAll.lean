import OpyVerif.Generated.Sweeps
/-!
What the three *translated* `_evaluate` methods (`Gen.genericSweep`, `Gen.psoSweep`, `Gen.gpSweep`, read from the current
working tree) have in common: each calls the objective exactly once per agent, and no other class defines a sweep.
-/
namespace Opy

/-- every translated sweep calls the objective exactly once per agent -/
theorem code_sweeps_eval_once :
    Gen.genericSweep.evalsOnce = true ∧ Gen.psoSweep.evalsOnce = true ∧ Gen.gpSweep.evalsOnce = true := by
  refine ⟨?_, ?_, ?_⟩
  · rcases Gen.genericSweep_eq with h | h <;> rw [h] <;> decide
  · rcases Gen.psoSweep_eq with h | h <;> rw [h] <;> decide
  · rcases Gen.gpSweep_eq with h | h <;> rw [h] <;> decide

/-- only `Optimizer`, `PSO` and `GP` define a sweep; every other optimizer inherits one of the three -/
theorem code_sweep_owners : Gen.sweepOwners = ["GP", "Optimizer", "PSO"] := Gen.sweepOwners_eq

end Opy
