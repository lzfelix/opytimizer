import OpyVerif.Proofs.TaskSwarm
import OpyVerif.Proofs.TaskRunCode
/-!
`task_swarm` about the translated programs: any of the sixteen skeletons (PSO, AIWPSO, RPSO are the ones that use it) with
`PSO._evaluate` as read from the working tree (`Gen.psoSweep`).
-/
namespace Opy
open Opy.Task

/-- **C20 for the swarm family about the translated programs.**  From the first sweep on every particle's stored fitness is the
    objective at its stored personal-best position and no particle's recorded fitness ever increases — for every clip loop, box,
    objective, iteration count and every oracle that leaves the personal-best memory alone. -/
theorem code_task_swarm (sk : Skeleton) (hsk : sk ∈ Gen.taskSkeletons) (c : ClipLoop) (lbs ubs : List Int) (o : TaskOracle)
    (hm : KeepsMemory o) (pop : List Ag) (best : Ag) (h0 : ∀ a ∈ pop, ∀ x, o.f x < a.fit) (N : Nat) :
    SwInv o (TaskProg.runTask ⟨sk, c, Gen.psoSweep⟩ lbs ubs o (TaskSt.start pop best) N) :=
  task_swarm ⟨sk, c, Gen.psoSweep⟩ lbs ubs o (code_taskSkeletons_good sk hsk) code_psoSweep_isRule hm pop best h0 N

namespace SwarmExample
open TaskExample
/-- objective `x ↦ min x 50` (below the particles' sentinel 100 everywhere); the update of oracle step 1 moves the only particle to 3, every later one to 9; memory untouched -/
def o1 : TaskOracle :=
  { f := fun p => min ((p.head?.bind List.head?).getD 0) 50,
    upd := fun k st => (st.1.map fun a => { a with pos := [[if k = 1 then 3 else 9]] }, st.2),
    hook := fun _ st => st, post := fun _ st => st }
example : KeepsMemory o1 :=
  ⟨fun k st => by simp [o1, memory, List.map_map, Function.comp_def], fun _ _ => rfl, fun _ _ => rfl⟩
example : ∀ a ∈ [a0], ∀ x, o1.f x < a.fit := by
  intro a ha x
  simp only [List.mem_singleton] at ha
  subst ha
  have : o1.f x ≤ 50 := Int.min_le_right _ _
  simp only [a0]; omega
/-- PSO, two iterations: evaluated at 5, 3, 9; the personal best goes 5 → 3 and stays 3 when the particle is at 9 -/
example :
    let s := TaskProg.runTask ⟨Gen.skel_PSO, Gen.searchClip, Gen.psoSweep⟩ [0] [10] o1 (TaskSt.start [a0] b0) 2
    s.evals = [([[5]], 5), ([[3]], 3), ([[9]], 9)] ∧ s.pop.map (fun a => (a.pos, a.tpos, a.fit)) = [([[9]], [[3]], 3)] ∧
      s.dumps.map (fun d => d.1.map (·.2)) = [[3], [3]] ∧ record s.best = ([[3]], 3) := by decide +kernel
end SwarmExample

end Opy
