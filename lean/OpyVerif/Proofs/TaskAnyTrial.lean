import OpyVerif.Proofs.TaskTrial
/-!
C01 for *every* objective call of a task, whatever the optimiser does with the values.  An update is a script of trials at
evaluation sites of the translated table `Gen.evalSites` (ABC's two, BA, BHA, CS, FPA, HS, SA — everything that calls the objective
outside a sweep); after a trial the challenged individual is an *arbitrary* agent of the declared row count (accepted, rejected,
moved on: an oracle value), so no acceptance rule is assumed at all.  Theorem: for every iteration count, objective and script,
every position handed to the objective — by a sweep or inside an update — lies in the box; each update makes at most one
call per trial (`anyUpdate_calls`, C03).  The statements about the translated tables are in `TaskAnyTrialCode.lean`.
-/
namespace Opy
namespace Task

/-- a trial whose outcome is an oracle value -/
structure AnyTrial where
  site : Site
  who : Nat
  proposals : List Pos
  /-- what stands at index `who` afterwards -/
  after : Ag

def anyTrialStep (lbs ubs : List Int) (f : Pos → Int) (pop : List Ag) (t : AnyTrial) : List Ag × List (Pos × Int) :=
  match pop[t.who]? with
  | none => (pop, [])
  | some a => (pop.set t.who t.after, (runOps lbs ubs a.pos t.site.ops t.proposals).map fun q => (q, f q))

def anyUpdate (lbs ubs : List Int) (f : Pos → Int) : List Ag → List AnyTrial → List Ag × List (Pos × Int)
  | pop, [] => (pop, [])
  | pop, t :: ts =>
    let r := anyTrialStep lbs ubs f pop t
    let rest := anyUpdate lbs ubs f r.1 ts
    (rest.1, r.2 ++ rest.2)

def anyOracle (lbs ubs : List Int) (f : Pos → Int) (script : Nat → List AnyTrial) : TaskOracle :=
  { f := f, upd := fun k st => ((anyUpdate lbs ubs f st.1 (script k)).1, st.2),
    updEv := fun k st => (anyUpdate lbs ubs f st.1 (script k)).2,
    hook := fun _ st => st, post := fun _ st => st }

/-- a well-formed trial: its site clips before it evaluates, everything has the declared row count -/
def AnyTrial.OK (lbs : List Int) (t : AnyTrial) : Prop :=
  opsOk false t.site.ops = true ∧ t.after.pos.length = lbs.length ∧ ∀ q ∈ t.proposals, q.length = lbs.length

theorem anyTrialStep_spec (lbs ubs : List Int) (f : Pos → Int) (hb : BoundsOk lbs ubs) (pop : List Ag) (t : AnyTrial)
    (hp : ∀ a ∈ pop, a.pos.length = lbs.length) (ht : t.OK lbs) :
    (∀ e ∈ (anyTrialStep lbs ubs f pop t).2, InBox lbs ubs e.1) ∧
    ∀ a ∈ (anyTrialStep lbs ubs f pop t).1, a.pos.length = lbs.length := by
  obtain ⟨hs, hafter, hprop⟩ := ht
  unfold anyTrialStep
  cases hw : pop[t.who]? with
  | none => exact ⟨List.forall_mem_nil _, hp⟩
  | some a =>
    refine ⟨List.forall_mem_map.mpr
      (site_evals_inBox lbs ubs a.pos t.site.ops t.proposals hb (hp a (List.mem_of_getElem? hw)) hprop hs), fun x hx => ?_⟩
    rcases List.mem_or_eq_of_mem_set hx with hx | rfl
    · exact hp x hx
    · exact hafter

theorem anyUpdate_spec (lbs ubs : List Int) (f : Pos → Int) (hb : BoundsOk lbs ubs) (pop : List Ag) (ts : List AnyTrial)
    (hp : ∀ a ∈ pop, a.pos.length = lbs.length) (ht : ∀ t ∈ ts, t.OK lbs) :
    (∀ e ∈ (anyUpdate lbs ubs f pop ts).2, InBox lbs ubs e.1) ∧
    ∀ a ∈ (anyUpdate lbs ubs f pop ts).1, a.pos.length = lbs.length := by
  induction ts generalizing pop with
  | nil => exact ⟨List.forall_mem_nil _, hp⟩
  | cons t ts ih =>
    simp only [anyUpdate]
    obtain ⟨s1, s2⟩ := anyTrialStep_spec lbs ubs f hb pop t hp (ht t List.mem_cons_self)
    obtain ⟨i1, i2⟩ := ih _ s2 fun t' ht' => ht t' (List.mem_cons_of_mem _ ht')
    exact ⟨List.forall_mem_append.mpr ⟨s1, i1⟩, i2⟩

/-- **C03, calls per update.**  With sites that call the objective once, an update makes at most one objective call per trial
    (exactly one for every trial that names an existing individual): the number of calls inside an update is bounded by the number
    of trials the algorithm performs, whatever they propose and whatever becomes of them. -/
theorem anyUpdate_calls (lbs ubs : List Int) (f : Pos → Int) (pop : List Ag) (ts : List AnyTrial)
    (hone : ∀ t ∈ ts, (t.site.ops.filter (· == .eval)).length = 1) :
    (anyUpdate lbs ubs f pop ts).2.length ≤ ts.length := by
  induction ts generalizing pop with
  | nil => exact Nat.le_refl 0
  | cons t ts ih =>
    simp only [anyUpdate, List.length_append, List.length_cons]
    have h1 : (anyTrialStep lbs ubs f pop t).2.length ≤ 1 := by
      unfold anyTrialStep
      cases pop[t.who]? with
      | none => exact Nat.zero_le 1
      | some a => exact Nat.le_of_eq ((List.length_map _).trans ((runOps_length ..).trans (hone t List.mem_cons_self)))
    rw [Nat.add_comm]
    exact Nat.add_le_add (ih _ fun t' ht' => hone t' (List.mem_cons_of_mem _ ht')) h1

/-- reading an event list with one flag, "the whole population is known to be inside the box": updates clear it, the
    space-wide clip sets it, a sweep needs it; `none` = some sweep is reached without it -/
def scan : Bool → List SEv → Option Bool
  | c, [] => some c
  | _, .update :: l => scan false l
  | _, .clipAll :: l => scan true l
  | c, .sweep :: l => if c then scan c l else none
  | c, _ :: l => scan c l

theorem scan_append (c : Bool) (l1 l2 : List SEv) : scan c (l1 ++ l2) = (scan c l1).bind (fun c' => scan c' l2) := by
  induction l1 generalizing c with
  | nil => simp [scan]
  | cons e l ih =>
    cases e <;> simp only [List.cons_append, scan, ih]
    split <;> simp

theorem scan_updates (n : Nat) (c : Bool) : scan c (List.replicate (n + 1) .update) = some false := by
  induction n generalizing c with
  | zero => simp [scan]
  | succ n ih => rw [List.replicate_succ]; simp only [scan]; exact ih false

theorem scan_posts (n : Nat) (c : Bool) : scan c (List.replicate n .post) = some c := by
  induction n with
  | zero => simp [scan]
  | succ n ih => rw [List.replicate_succ]; simp only [scan]; exact ih

/-- the event pattern of a good skeleton is safe: started with a feasible population, every sweep finds one -/
theorem scan_runSkel (sk : Skeleton) (hg : Good true sk = true) (N : Nat) : scan true (runSkel sk N) = some true := by
  obtain ⟨hpre, a, b, hbody⟩ := good_pattern true sk hg
  simp only [if_true] at hbody
  induction N with
  | zero => simp [runSkel, hpre, scan]
  | succ n ih =>
    simp only [runSkel, scan_append, ih, Option.bind_some, hbody, scan_updates]
    simp [scan, scan_posts]

section
variable (p : TaskProg) (lbs ubs : List Int) (f : Pos → Int) (script : Nat → List AnyTrial)

/-- the clip loop keeps the number of rows -/
def ClipKeepsRows (c : ClipLoop) (lbs ubs : List Int) : Prop := ∀ pos : Pos, (c.runPos lbs ubs pos).length = pos.length

/-- rows as declared; every objective call so far — of a sweep or of a trial — inside the box -/
structure AInv (lbs ubs : List Int) (s : TaskSt) : Prop where
  rows : ∀ a ∈ s.pop, a.pos.length = lbs.length
  trials : ∀ e ∈ s.trialEvals, InBox lbs ubs e.1
  sweeps : ∀ e ∈ s.evals, InBox lbs ubs e.1

theorem scan_sound (hb : BoundsOk lbs ubs) (hc : ClipsInto p.clip lbs ubs lbs ubs) (hr : IsRule p.sweep false)
    (hscript : ∀ k, ∀ t ∈ script k, t.OK lbs) (es : List SEv) :
    ∀ (c c' : Bool) (s : TaskSt), scan c es = some c' → (c = true → ∀ a ∈ s.pop, InBox lbs ubs a.pos) → AInv lbs ubs s →
      AInv lbs ubs (p.exec lbs ubs (anyOracle lbs ubs f script) s es) ∧
      (c' = true → ∀ a ∈ (p.exec lbs ubs (anyOracle lbs ubs f script) s es).pop, InBox lbs ubs a.pos) := by
  induction es with
  | nil =>
    intro c c' s hsc hcl h
    cases hsc
    exact ⟨h, hcl⟩
  | cons ev es ih =>
    intro c c' s hsc hcl ⟨h1, h2, h3⟩
    rw [exec_cons]
    cases ev with
    | update =>
      obtain ⟨u1, u2⟩ := anyUpdate_spec lbs ubs f hb s.pop (script s.k) h1 (hscript s.k)
      exact ih false c' _ hsc nofun ⟨u2, List.forall_mem_append.mpr ⟨h2, u1⟩, h3⟩
    | clipAll =>
      have hin : ∀ a ∈ (p.execEv lbs ubs (anyOracle lbs ubs f script) s .clipAll).pop, InBox lbs ubs a.pos :=
        List.forall_mem_map.mpr fun x hx => hc x.pos (h1 x hx)
      exact ih true c' _ hsc (fun _ => hin) ⟨fun a ha => inBox_length lbs ubs a.pos (hin a ha), h2, h3⟩
    | hook => exact ih c c' _ hsc hcl ⟨h1, h2, h3⟩
    | post => exact ih c c' _ hsc hcl ⟨h1, h2, h3⟩
    | dump => exact ih c c' _ hsc hcl ⟨h1, h2, h3⟩
    | sweep =>
      cases c with
      | false => cases hsc
      | true =>
        have hin' : ∀ a ∈ (p.execEv lbs ubs (anyOracle lbs ubs f script) s .sweep).pop, InBox lbs ubs a.pos :=
          fun a ha => (sweep_settles p lbs ubs lbs ubs _ hr s (hcl rfl) a ha).1
        exact ih true c' _ hsc (fun _ => hin') ⟨fun a ha => inBox_length lbs ubs a.pos (hin' a ha), h2,
          List.forall_mem_append.mpr ⟨h3, List.forall_mem_map.mpr (hcl rfl)⟩⟩

/-- **C01, every objective call.**  Good skeleton, a clip loop that projects into the box, the machine's sweep rule, trial sites
    that clip before they evaluate — and nothing assumed about acceptance: for every iteration count, objective and script,
    every position a sweep evaluates and every position a trial evaluates lies in the box. -/
theorem task_all_evals_inBox (hg : Good true p.skel = true) (hb : BoundsOk lbs ubs)
    (hc : ClipsInto p.clip lbs ubs lbs ubs) (hr : IsRule p.sweep false)
    (hscript : ∀ k, ∀ t ∈ script k, t.OK lbs)
    (pop : List Ag) (best : Ag) (h0 : ∀ a ∈ pop, InBox lbs ubs a.pos) (N : Nat) :
    let s := p.runTask lbs ubs (anyOracle lbs ubs f script) (TaskSt.start pop best) N
    (∀ e ∈ s.evals, InBox lbs ubs e.1) ∧ (∀ e ∈ s.trialEvals, InBox lbs ubs e.1) := by
  have h := (scan_sound p lbs ubs f script hb hc hr hscript (runSkel p.skel N) true true (TaskSt.start pop best)
    (scan_runSkel p.skel hg N) (fun _ => h0)
    ⟨fun a ha => inBox_length lbs ubs a.pos (h0 a ha), List.forall_mem_nil _, List.forall_mem_nil _⟩).1
  exact ⟨h.sweeps, h.trials⟩

end

end Task

end Opy
