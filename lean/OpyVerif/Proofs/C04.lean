import OpyVerif.Model.History
import OpyVerif.Proofs.Lemmas.ListLemmas
/-!
C04 / C19 (structural part) — `History.dump` appends exactly one record per kept key and never
touches earlier records; `store_best_only` keeps only the best-agent series among the
HISTORY_KEYS; `load` after `save` reproduces the saved attribute dictionary (`load_after_save`, `lookup_loadInto_saved`:
what C19's `get_after_load` rests on).  The theorems about `N` successive calls (`dump_series_*`) are in `Proofs/C19.lean`.
`lookupA attrs k` is the model's `Hist.lookup` on the bare attribute list (`h.lookup k = lookupA h.attrs k` by `rfl`).
-/
namespace Opy

def lookupA (attrs : List (String × List Rec)) (k : String) : Option (List Rec) :=
  (attrs.find? (fun kv => decide (kv.1 = k))).map (·.2)

@[simp] theorem lookupA_nil (k : String) : lookupA [] k = none := rfl

@[simp] theorem lookupA_cons (k' : String) (l : List Rec) (rest : List (String × List Rec)) (k : String) :
    lookupA ((k', l) :: rest) k = if k' = k then some l else lookupA rest k := assoc_cons ..

theorem lookup_appendAttr (attrs : List (String × List Rec)) (k k2 : String) (v : Rec) :
    lookupA (appendAttr attrs k v) k2 =
      if k = k2 then some ((lookupA attrs k2).getD [] ++ [v]) else lookupA attrs k2 := by
  induction attrs with
  | nil => simp [appendAttr]
  | cons kv rest ih =>
    obtain ⟨k', l⟩ := kv
    by_cases h1 : k' = k <;> by_cases h2 : k = k2 <;> simp_all [appendAttr]

/-- `dump` drops the pair: a HISTORY_KEY other than `best_agent` under `store_best_only` -/
def skips (hk : List String) (h : Hist) (k : String) : Bool :=
  hk.contains k && k != "best_agent" && h.storeBestOnly

theorem skips_iff (hk : List String) (h : Hist) (k : String) :
    skips hk h k = true ↔ hk.contains k = true ∧ k ≠ "best_agent" ∧ h.storeBestOnly = true := by
  simp [skips, and_assoc]

theorem lookupA_dump1 (hk : List String) (h : Hist) (k k2 : String) (v : Rec) :
    lookupA (dump1 hk h (k, v)).attrs k2 =
      if k = k2 ∧ skips hk h k = false then some ((lookupA h.attrs k2).getD [] ++ [v])
      else lookupA h.attrs k2 := by
  rw [dump1, ← skips]
  cases skips hk h k <;> simp [lookup_appendAttr]

/-- **append-only, one key**: a kept `(k, v)` appends exactly `v` to series `k` … -/
theorem dump1_appends (hk : List String) (h : Hist) (k : String) (v : Rec)
    (hkeep : (hk.contains k && k != "best_agent" && h.storeBestOnly) = false) :
    lookupA (dump1 hk h (k, v)).attrs k = some ((lookupA h.attrs k).getD [] ++ [v]) := by
  rw [lookupA_dump1, if_pos ⟨rfl, hkeep⟩]

/-- … and leaves every other series exactly as it was -/
theorem dump1_frame (hk : List String) (h : Hist) (k k2 : String) (v : Rec) (hne : k ≠ k2) :
    lookupA (dump1 hk h (k, v)).attrs k2 = lookupA h.attrs k2 := by
  rw [lookupA_dump1, if_neg (fun h => hne h.1)]

/-- with `store_best_only`, per-agent HISTORY_KEYS are dropped: nothing changes at all -/
theorem dump1_store_best_only (hk : List String) (h : Hist) (k : String) (v : Rec)
    (hs : h.storeBestOnly = true) (hin : hk.contains k = true) (hb : k ≠ "best_agent") :
    dump1 hk h (k, v) = h :=
  if_pos ((skips_iff hk h k).mpr ⟨hin, hb, hs⟩)

theorem dump1_sbo (hk : List String) (h : Hist) (kv : String × Rec) :
    (dump1 hk h kv).storeBestOnly = h.storeBestOnly := by
  simp only [dump1]; split <;> rfl

theorem skips_dump1 (hk : List String) (h : Hist) (kv : String × Rec) (k : String) :
    skips hk (dump1 hk h kv) k = skips hk h k := by
  rw [skips, dump1_sbo, ← skips]

/-- the value a `dump(**kwargs)` call passes for key `k` -/
def kvLookup (kvs : List (String × Rec)) (k : String) : Option Rec :=
  (kvs.find? (fun kv => decide (kv.1 = k))).map (·.2)

theorem kvLookup_cons (k' : String) (v : Rec) (kvs : List (String × Rec)) (k : String) :
    kvLookup ((k', v) :: kvs) k = if k' = k then some v else kvLookup kvs k := assoc_cons ..

theorem kvLookup_isSome_of_mem (kvs : List (String × Rec)) (k : String) (h : k ∈ kvs.map (·.1)) :
    ∃ v, kvLookup kvs k = some v := by
  obtain ⟨kv, hkv, rfl⟩ := List.mem_map.mp h
  apply Option.isSome_iff_exists.mp
  rw [kvLookup, Option.isSome_map, List.find?_isSome]
  exact ⟨kv, hkv, decide_eq_true rfl⟩

/-- all the values a call passes under key `k`, in order (Python allows one; the model any number) -/
def passed (kvs : List (String × Rec)) (k : String) : List Rec :=
  kvs.filterMap fun kv => if kv.1 = k then some kv.2 else none

theorem passed_cons (kv : String × Rec) (kvs : List (String × Rec)) (k : String) :
    passed (kv :: kvs) k = if kv.1 = k then kv.2 :: passed kvs k else passed kvs k := by
  by_cases h : kv.1 = k <;> simp [passed, h]

theorem passed_of_notin (kvs : List (String × Rec)) (k : String) (h : k ∉ kvs.map (·.1)) :
    passed kvs k = [] := by
  induction kvs with
  | nil => rfl
  | cons kv kvs ih =>
    rw [List.map_cons, List.mem_cons, not_or] at h
    rw [passed_cons, if_neg (Ne.symm h.1), ih h.2]

theorem passed_of_nodup (kvs : List (String × Rec)) (k : String) (hnd : (kvs.map (·.1)).Nodup) :
    passed kvs k = (kvLookup kvs k).toList := by
  induction kvs with
  | nil => rfl
  | cons kv kvs ih =>
    obtain ⟨k', v⟩ := kv
    rw [List.map_cons, List.nodup_cons] at hnd
    rw [passed_cons, kvLookup_cons]
    split
    next h => rw [passed_of_notin kvs k (h ▸ hnd.1)]; rfl
    next => exact ih hnd.2

theorem passed_flatten (calls : List (List (String × Rec))) (k : String) :
    passed calls.flatten k = calls.flatMap (passed · k) := by
  simp [passed, List.filterMap_flatten, List.flatMap_def]

theorem dump_cons (hk : List String) (h : Hist) (kv : String × Rec) (kvs : List (String × Rec)) :
    dump hk h (kv :: kvs) = dump hk (dump1 hk h kv) kvs := rfl

theorem dump_sbo (hk : List String) : ∀ (kvs : List (String × Rec)) (h : Hist),
    (dump hk h kvs).storeBestOnly = h.storeBestOnly
  | [], _ => rfl
  | kv :: kvs, h => by rw [dump_cons, dump_sbo hk kvs, dump1_sbo]

theorem lookupA_dump_skipped (hk : List String) (kvs : List (String × Rec)) (h : Hist) (k : String)
    (hs : skips hk h k = true) : lookupA (dump hk h kvs).attrs k = lookupA h.attrs k := by
  induction kvs generalizing h with
  | nil => rfl
  | cons kv kvs ih =>
    rw [dump_cons, ih _ (by rwa [skips_dump1]), lookupA_dump1, if_neg]
    rintro ⟨rfl, h'⟩; rw [hs] at h'; cases h'

theorem series_dump_kept (hk : List String) (kvs : List (String × Rec)) (h : Hist) (k : String)
    (hs : skips hk h k = false) :
    (lookupA (dump hk h kvs).attrs k).getD [] = (lookupA h.attrs k).getD [] ++ passed kvs k := by
  induction kvs generalizing h with
  | nil => simp [dump, passed]
  | cons kv kvs ih =>
    rw [dump_cons, ih _ (by rwa [skips_dump1]), lookupA_dump1, passed_cons]
    by_cases hk' : kv.1 = k <;> simp [hk', hs]

theorem foldl_dump (hk : List String) (calls : List (List (String × Rec))) (h : Hist) :
    calls.foldl (dump hk) h = dump hk h calls.flatten := by
  rw [dump, List.foldl_flatten]; rfl

theorem foldl_dump_sbo (hk : List String) : ∀ (calls : List (List (String × Rec))) (h : Hist),
    (calls.foldl (dump hk) h).storeBestOnly = h.storeBestOnly :=
  fun calls h => by rw [foldl_dump, dump_sbo]

/-- **prefix stability**: whatever is dumped later, every earlier record of every series
    stays where it was (series only ever grow at the end) -/
theorem dump_prefix (hk : List String) (kvs : List (String × Rec)) : ∀ (h : Hist) (k2 : String),
    ∃ tail, (lookupA (dump hk h kvs).attrs k2).getD [] = (lookupA h.attrs k2).getD [] ++ tail := by
  intro h k
  cases hs : skips hk h k
  · exact ⟨_, series_dump_kept hk kvs h k hs⟩
  · exact ⟨[], by rw [lookupA_dump_skipped hk kvs h k hs, List.append_nil]⟩

theorem dump1_prefix (hk : List String) (h : Hist) (kv : String × Rec) (k2 : String) :
    ∃ tail, (lookupA (dump1 hk h kv).attrs k2).getD [] = (lookupA h.attrs k2).getD [] ++ tail :=
  dump_prefix hk [kv] h k2

/-- one `dump(agents=…, best_agent=…)` call with distinct keys lengthens each kept series
    by exactly one -/
theorem dump_two_lengths (hk : List String) (h : Hist) (k1 k2 : String) (v1 v2 : Rec)
    (hne : k1 ≠ k2)
    (hkeep1 : (hk.contains k1 && k1 != "best_agent" && h.storeBestOnly) = false)
    (hkeep2 : (hk.contains k2 && k2 != "best_agent" && h.storeBestOnly) = false) :
    ((lookupA (dump hk h [(k1, v1), (k2, v2)]).attrs k1).getD []).length
        = ((lookupA h.attrs k1).getD []).length + 1 ∧
    ((lookupA (dump hk h [(k1, v1), (k2, v2)]).attrs k2).getD []).length
        = ((lookupA h.attrs k2).getD []).length + 1 := by
  rw [series_dump_kept hk _ h k1 hkeep1, series_dump_kept hk _ h k2 hkeep2]
  simp [passed, hne, hne.symm]

theorem lookupA_append (a b : List (String × List Rec)) (k : String) :
    lookupA (a ++ b) k = (lookupA a k).or (lookupA b k) := by
  rw [lookupA, List.find?_append, Option.map_or]; rfl

theorem lookup_loadInto_saved (target saved : List (String × List Rec)) (k : String)
    (h : (saved.any (fun s => decide (s.1 = k))) = true) : lookupA (loadInto target saved) k = lookupA saved k := by
  rw [loadInto, lookupA_append, Option.or_of_isSome]
  rwa [lookupA, Option.isSome_map, List.find?_isSome, ← List.any_eq_true]

/-- **load ∘ save**: if every attribute of the target also exists in the saved object (true
    of a fresh `History`, whose only attribute is `store_best_only`), the loaded object has
    exactly the saved attributes with the saved values -/
theorem load_after_save (target saved : List (String × List Rec))
    (h : ∀ kv ∈ target, (saved.any (fun s => decide (s.1 = kv.1))) = true) : loadInto target saved = saved := by
  rw [loadInto, List.filter_eq_nil_iff.mpr, List.append_nil]
  intro kv hkv
  simp [h kv hkv]

/-- the premise matters: an attribute only the target has survives the load (informational) -/
example : (loadInto [("extra", [.num 1])] [("agents", [])]).map (·.1) = ["agents", "extra"] := by
  decide +kernel

end Opy
