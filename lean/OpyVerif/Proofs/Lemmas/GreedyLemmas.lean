import OpyVerif.Proofs.Lemmas.MachineSpec
/-!
Helper definitions and lemmas for `Proofs/C20.lean`, `TaskHarmony.lean` and `TaskTrial.lean`: index-wise
comparison of fitness vectors (`rowLeB`, `fitsLe`), the greedy monitor (`greedyRun`) and ordered insertion
(`insertSorted`, `replaceWorst`).
-/
namespace Opy

/-- same length and index-wise `≤` -/
def rowLeB : List Int → List Int → Bool
  | [], [] => true
  | x :: xs, y :: ys => decide (x ≤ y) && rowLeB xs ys
  | _, _ => false

theorem rowLeB_cons (x y : Int) (xs ys : List Int) :
    rowLeB (x :: xs) (y :: ys) = true ↔ x ≤ y ∧ rowLeB xs ys = true := by
  simp [rowLeB]

theorem rowLeB_iff (a b : List Int) : rowLeB a b = true ↔
    a.length = b.length ∧ ∀ i (h1 : i < a.length) (h2 : i < b.length), a[i] ≤ b[i] := by
  induction a generalizing b with
  | nil => cases b <;> simp [rowLeB]
  | cons x xs ih =>
    cases b with
    | nil => simp [rowLeB]
    | cons y ys =>
      simp only [rowLeB_cons, ih, List.length_cons, Nat.add_right_cancel_iff]
      -- index 0 compares the heads, index `i + 1` is index `i` of the tails
      exact ⟨fun ⟨h0, hl, hi⟩ => ⟨hl, fun
          | 0, _, _ => h0
          | i + 1, h1, h2 => hi i (Nat.lt_of_succ_lt_succ h1) (Nat.lt_of_succ_lt_succ h2)⟩,
        fun ⟨hl, hi⟩ => ⟨hi 0 (Nat.zero_lt_succ _) (Nat.zero_lt_succ _), hl,
          fun i h1 h2 => hi (i + 1) (Nat.succ_lt_succ h1) (Nat.succ_lt_succ h2)⟩⟩

theorem rowLeB_refl (a : List Int) : rowLeB a a = true := by
  rw [rowLeB_iff]; exact ⟨rfl, fun i _ _ => Int.le_refl _⟩

theorem rowLeB_trans (a b c : List Int) (h1 : rowLeB a b = true) (h2 : rowLeB b c = true) :
    rowLeB a c = true := by
  rw [rowLeB_iff] at *
  exact ⟨h1.1.trans h2.1, fun i ha hc =>
    Int.le_trans (h1.2 i ha (h1.1 ▸ ha)) (h2.2 i (h1.1 ▸ ha) hc)⟩

/-- the population keeps its size and no agent's fitness went up (population order fixed) -/
def fitsLe (new old : List Ag) : Bool := rowLeB (new.map (·.fit)) (old.map (·.fit))

theorem fitsLe_iff (new old : List Ag) : fitsLe new old = true ↔
    new.length = old.length ∧
      ∀ i (h1 : i < new.length) (h2 : i < old.length), new[i].fit ≤ old[i].fit := by
  unfold fitsLe
  rw [rowLeB_iff]
  simp only [List.length_map, List.getElem_map]

theorem fitsLe_refl (a : List Ag) : fitsLe a a = true := rowLeB_refl _

theorem fitsLe_of_map_eq (a b : List Ag) (h : a.map (·.fit) = b.map (·.fit)) :
    fitsLe a b = true := by
  unfold fitsLe; rw [h]; exact rowLeB_refl _

theorem fitsLe_set (l : List Ag) (i : Nat) (a a' : Ag) (hi : l[i]? = some a)
    (h : a'.fit ≤ a.fit) : fitsLe (l.set i a') l = true := by
  obtain ⟨hil, hia⟩ := List.getElem?_eq_some_iff.1 hi
  rw [fitsLe_iff]
  refine ⟨by simp, ?_⟩
  intro j h1 h2
  rw [List.getElem_set]
  split
  · rename_i hij; subst hij; rw [hia]; exact h
  · exact Int.le_refl _

/-- what a greedy optimiser's observable steps look like: population changes never raise a
    fitness; the sweep re-evaluates unmoved truthful agents (or keeps personal bests) -/
def greedyStep (cfg : Cfg) (s : St) : Ev → Bool
  | .hook pop' => fitsLe pop' s.pop
  | .update pop' => fitsLe pop' s.pop
  | .trial _ _ pop' => fitsLe pop' s.pop
  | .sweep _ _ _ =>
    cfg.swarm || (match s.pop[s.cursor]? with | some a => truthB s.evals a | none => false)
  | .trialSwap _ _ _ => false
  | .clipAll => true
  | .dump => true

/-- `greedyStep` holds before every event of the (accepted) history -/
def greedyRun (cfg : Cfg) : St → List Ev → Bool
  | _, [] => true
  | s, e :: es =>
    greedyStep cfg s e &&
      (match apply cfg s e with
       | some s' => greedyRun cfg s' es
       | none => false)

theorem greedy_step_fits (cfg : Cfg) (s s' : St) (e : Ev) (hg : greedyStep cfg s e = true)
    (h : apply cfg s e = some s') : fitsLe s'.pop s.pop = true := by
  cases e with
  | hook pop' => obtain ⟨rfl, _⟩ := hook_spec h; exact hg
  | update pop' => obtain ⟨rfl, _⟩ := update_spec h; exact hg
  | trial p v pop' => obtain ⟨rfl, _⟩ := trial_spec h; exact hg
  | trialSwap p v i => cases hg
  | sweep v tie r =>
    obtain ⟨a, hai, rfl, hcons, _, hsw, _⟩ := sweep_spec h
    apply fitsLe_set s.pop s.cursor a _ hai
    -- the monitor asks for a truthful record outside the swarm family
    by_cases hs : cfg.swarm = true
    · exact sweepAgent_fit_le cfg a v hs
    · simp only [greedyStep, hs, Bool.false_or, hai, truthB_iff] at hg
      exact sweepAgent_fit_le_of_truth cfg s.evals a v hcons hsw hg
  | clipAll =>
    obtain ⟨rfl, _⟩ := clipAll_spec h
    exact fitsLe_of_map_eq _ _ (by rw [List.map_map]; rfl)
  | dump => obtain ⟨rfl, _⟩ := dump_spec h; exact fitsLe_refl _

theorem apply_fitLog (cfg : Cfg) (s s' : St) (e : Ev) (h : apply cfg s e = some s') :
    (e.isDump = false ∧ s'.fitLog = s.fitLog) ∨
    (e.isDump = true ∧ s'.fitLog = s.fitLog ++ [s.pop.map (·.fit)] ∧ s'.pop = s.pop) := by
  cases e with
  | hook pop' => obtain ⟨rfl, _⟩ := hook_spec h; exact Or.inl ⟨rfl, rfl⟩
  | update pop' => obtain ⟨rfl, _⟩ := update_spec h; exact Or.inl ⟨rfl, rfl⟩
  | trial p v pop' => obtain ⟨rfl, _⟩ := trial_spec h; exact Or.inl ⟨rfl, rfl⟩
  | trialSwap p v i => obtain ⟨a, _, rfl, _⟩ := trialSwap_spec h; exact Or.inl ⟨rfl, rfl⟩
  | sweep v tie r => obtain ⟨a, _, rfl, _⟩ := sweep_spec h; exact Or.inl ⟨rfl, rfl⟩
  | clipAll => obtain ⟨rfl, _⟩ := clipAll_spec h; exact Or.inl ⟨rfl, rfl⟩
  | dump => obtain ⟨rfl, _⟩ := dump_spec h; exact Or.inr ⟨rfl, rfl, rfl⟩

theorem greedy_log (cfg : Cfg) (evs : List Ev) : ∀ (s s' : St), greedyRun cfg s evs = true →
    run cfg s evs = some s' →
    fitsLe s'.pop s.pop = true ∧
    ∃ rows, s'.fitLog = s.fitLog ++ rows ∧ rows.length = (evs.filter Ev.isDump).length ∧
      rows.Pairwise (fun r1 r2 => rowLeB r2 r1 = true) ∧
      ∀ r ∈ rows, rowLeB (s'.pop.map (·.fit)) r = true ∧ rowLeB r (s.pop.map (·.fit)) = true := by
  induction evs with
  | nil =>
    intro s s' _ h
    cases run_nil.1 h
    exact ⟨fitsLe_refl _, [], by simp, rfl, List.Pairwise.nil, by simp⟩
  | cons e es ih =>
    intro s s' hg h
    obtain ⟨s1, h1, h2⟩ := run_cons.1 h
    simp only [greedyRun, h1, Bool.and_eq_true] at hg
    obtain ⟨hge, hgr⟩ := hg
    have hstep := greedy_step_fits cfg s s1 e hge h1
    obtain ⟨hfit, rows, hlog, hlen, hpw, hrows⟩ := ih s1 s' hgr h2
    have hfit' : rowLeB (s'.pop.map (·.fit)) (s.pop.map (·.fit)) = true :=
      rowLeB_trans _ _ _ hfit hstep
    have hrows' : ∀ r ∈ rows, rowLeB (s'.pop.map (·.fit)) r = true ∧
        rowLeB r (s.pop.map (·.fit)) = true :=
      fun r hr => ⟨(hrows r hr).1, rowLeB_trans _ _ _ (hrows r hr).2 hstep⟩
    refine ⟨hfit', ?_⟩
    rcases apply_fitLog cfg s s1 e h1 with ⟨hd, hl⟩ | ⟨hd, hl, _⟩
    · exact ⟨rows, by rw [hlog, hl], by simp [hd, hlen], hpw, hrows'⟩
    · -- a dump writes the fitnesses of `s`, which the later rows and the final population are below
      exact ⟨s.pop.map (·.fit) :: rows, by rw [hlog, hl]; simp, by simp [hd, hlen],
        List.pairwise_cons.2 ⟨fun r hr => (hrows' r hr).2, hpw⟩,
        List.forall_mem_cons.2 ⟨⟨hfit', rowLeB_refl _⟩, hrows'⟩⟩

def insertSorted (v : Int) : List Int → List Int
  | [] => [v]
  | x :: xs => if v ≤ x then v :: x :: xs else x :: insertSorted v xs

/-- harmony search: the new harmony replaces the worst one if it is strictly better, and the
    memory is kept sorted -/
def replaceWorst (v : Int) (l : List Int) : List Int :=
  match l.getLast? with
  | some w => if v < w then insertSorted v l.dropLast else l
  | none => l

theorem replaceWorst_eq (v : Int) {l : List Int} (hne : l ≠ []) :
    replaceWorst v l = if v < l.getLast hne then insertSorted v l.dropLast else l := by
  unfold replaceWorst
  rw [List.getLast?_eq_some_getLast hne]

theorem insertSorted_perm (v : Int) : ∀ (l : List Int), (insertSorted v l).Perm (v :: l)
  | [] => .refl _
  | x :: xs => by
    unfold insertSorted
    split
    · exact .refl _
    · exact ((insertSorted_perm v xs).cons x).trans (.swap v x xs)

theorem insertSorted_length (v : Int) (l : List Int) :
    (insertSorted v l).length = l.length + 1 :=
  (insertSorted_perm v l).length_eq

theorem insertSorted_sorted (v : Int) (l : List Int) (h : l.Pairwise (· ≤ ·)) :
    (insertSorted v l).Pairwise (· ≤ ·) := by
  induction l with
  | nil => simp [insertSorted]
  | cons x xs ih =>
    rw [List.pairwise_cons] at h
    unfold insertSorted
    split
    · rename_i hv
      exact List.pairwise_cons.2 ⟨List.forall_mem_cons.2 ⟨hv, fun y hy => Int.le_trans hv (h.1 y hy)⟩,
        List.pairwise_cons.2 h⟩
    · rename_i hv
      refine List.pairwise_cons.2 ⟨fun y hy => ?_, ih h.2⟩
      rcases List.mem_cons.1 ((insertSorted_perm v xs).mem_iff.1 hy) with rfl | hy
      · exact Int.le_of_lt (Int.not_le.1 hv)
      · exact h.1 y hy

/-- in a sorted list every entry is below its successor -/
theorem sorted_shift (xs : List Int) (w : Int) : ∀ (x : Int),
    (x :: (xs ++ [w])).Pairwise (· ≤ ·) → rowLeB (x :: xs) (xs ++ [w]) = true := by
  induction xs with
  | nil =>
    intro x h
    rw [List.pairwise_cons] at h
    simp [rowLeB, h.1 w (by simp)]
  | cons y ys ih =>
    intro x h
    rw [List.pairwise_cons] at h
    exact (rowLeB_cons ..).2 ⟨h.1 y (by simp), ih y h.2⟩

theorem insertSorted_rowLe (v w : Int) (hv : v ≤ w) (l : List Int)
    (h : (l ++ [w]).Pairwise (· ≤ ·)) : rowLeB (insertSorted v l) (l ++ [w]) = true := by
  induction l with
  | nil => simp [insertSorted, rowLeB, hv]
  | cons x xs ih =>
    unfold insertSorted
    split
    · rename_i hvx
      exact (rowLeB_cons ..).2 ⟨hvx, sorted_shift xs w x h⟩
    · rw [List.cons_append, List.pairwise_cons] at h
      exact (rowLeB_cons ..).2 ⟨Int.le_refl _, ih h.2⟩

end Opy
