import OpyVerif.Model.TreeOps
import OpyVerif.Proofs.Lemmas.TreeBasics
/-
Helper lemmas about `PNode` trees and the pointer-write operations `relink`, `setChild`,
`childOf`, `lookup`, `findNode`.  Core Lean only.
Defines: `nodes` (`cross_multiset` is stated with it).
-/
namespace Opy
namespace PNode

theorem size_eq_ids_length (t : PNode) : t.size = t.ids.length := by
  rw [← pre_length, ← List.length_map (f := id?), pre_map_id?, List.length_map]

theorem exists_lookup_of_mem_ids {k : Nat} {t : PNode} (h : k ∈ t.ids) :
    ∃ n, lookup k t = some n ∧ n ∈ t.pre ∧ n.id? = some k := by
  cases e : lookup k t with
  | none => exact absurd h (lookup_eq_none_iff.1 e)
  | some n => exact ⟨n, rfl, lookup_some e⟩

theorem childOf_nil (pid side) : childOf pid side nil = nil := rfl

theorem childOf_mk (pid : Nat) (side : Bool) (i lb p f l r) :
    childOf pid side (mk i lb p f l r) =
      if i = pid then (if side then l else r)
      else if pid ∈ l.ids then childOf pid side l else childOf pid side r := by
  unfold childOf
  rw [lookup_mk]
  by_cases h : i = pid
  · simp [h, leftOf, rightOf]
  · simp only [h, if_false]
    by_cases hl : pid ∈ l.ids
    · obtain ⟨n, hn, _⟩ := exists_lookup_of_mem_ids hl
      simp [hl, hn]
    · simp [hl, lookup_eq_none_iff.2 hl]

theorem childOf_of_not_mem {pid : Nat} {side : Bool} {t : PNode} (h : pid ∉ t.ids) :
    childOf pid side t = nil := by
  unfold childOf; rw [lookup_eq_none_iff.2 h]

theorem childOf_here (pid side lb par flag l r) :
    childOf pid side (mk pid lb par flag l r) = if side then l else r := by
  rw [childOf_mk, if_pos rfl]

theorem childOf_left {pid i : Nat} (h : i ≠ pid) {l : PNode} (hl : pid ∈ l.ids) (side lb par flag r) :
    childOf pid side (mk i lb par flag l r) = childOf pid side l := by
  rw [childOf_mk, if_neg h, if_pos hl]

theorem childOf_right {pid i : Nat} (h : i ≠ pid) {l : PNode} (hl : pid ∉ l.ids) (side lb par flag r) :
    childOf pid side (mk i lb par flag l r) = childOf pid side r := by
  rw [childOf_mk, if_neg h, if_neg hl]

/-- Induction along the walk from the root to `pid`, which `Nodup` makes unique; off the walk
    `setChild pid` and `childOf pid` do nothing. -/
theorem slot_induction {pid : Nat} {motive : PNode → Prop}
    (here : ∀ lb par flag l r, pid ∉ l.ids → pid ∉ r.ids → motive (mk pid lb par flag l r))
    (left : ∀ i lb par flag l r, i ≠ pid → pid ∈ l.ids → pid ∉ r.ids → l.ids.Nodup → motive l →
      motive (mk i lb par flag l r))
    (right : ∀ i lb par flag l r, i ≠ pid → pid ∉ l.ids → pid ∈ r.ids → r.ids.Nodup → motive r →
      motive (mk i lb par flag l r)) :
    ∀ t : PNode, t.ids.Nodup → pid ∈ t.ids → motive t := by
  intro t
  induction t with
  | nil => intro _ h; simp [ids] at h
  | mk i lb par flag l r ihl ihr =>
    intro hnd hmem
    obtain ⟨h1, h2, hl, hr, hd⟩ := nodup_mk hnd
    by_cases hi : i = pid
    · subst hi; exact here _ _ _ _ _ h1 h2
    · simp only [ids, List.mem_cons, List.mem_append] at hmem
      rcases hmem with h | h | h
      · exact absurd h.symm hi
      · exact left _ _ _ _ _ _ hi h (hd pid h) hl (ihl hl h)
      · exact right _ _ _ _ _ _ hi (fun hx => hd pid hx h) h hr (ihr hr h)

theorem ids_sublist_of_mem_pre {n t : PNode} (h : n ∈ t.pre) : n.ids.Sublist t.ids :=
  of_mem_pre (P := fun n => n.ids.Sublist t.ids)
    (fun _ _ _ _ _ _ h => ⟨((List.sublist_append_left _ _).cons _).trans h,
      ((List.sublist_append_right _ _).cons _).trans h⟩) h (List.Sublist.refl _)

theorem arity_of_mem_pre {ar : Nat → Nat} {n t : PNode} (hn : n ∈ t.pre) (h : Arity ar t) :
    Arity ar n :=
  of_mem_pre (P := Arity ar) (fun _ _ _ _ _ _ h => h.2) hn h

theorem childOf_eq_kidOn {t m : PNode} (hnd : t.ids.Nodup) (hm : m ∈ t.pre) {q : Nat}
    (hq : m.id? = some q) (s : Bool) : childOf q s t = kidOn m s := by
  unfold childOf; rw [lookup_eq_some_of_mem_pre t hnd m hm q hq]; rfl

theorem childOf_nil_or_mem (pid : Nat) (side : Bool) (t : PNode) :
    childOf pid side t = nil ∨ childOf pid side t ∈ t.pre := by
  unfold childOf
  cases e : lookup pid t with
  | none => exact Or.inl rfl
  | some n =>
    by_cases h : kidOn n side = nil
    · exact Or.inl h
    · exact Or.inr (mem_pre_trans (lookup_some e).1 (kidOn_mem_pre h))

theorem childOf_ids_sublist (pid : Nat) (side : Bool) (t : PNode) :
    (childOf pid side t).ids.Sublist t.ids := by
  rcases childOf_nil_or_mem pid side t with h | h
  · rw [h]; exact List.nil_sublist _
  · exact ids_sublist_of_mem_pre h

theorem childOf_ids_subset {pid : Nat} {side : Bool} {t : PNode} {x : Nat}
    (h : x ∈ (childOf pid side t).ids) : x ∈ t.ids :=
  (childOf_ids_sublist pid side t).subset h

theorem size_childOf_le (pid : Nat) (side : Bool) (t : PNode) :
    (childOf pid side t).size ≤ t.size := by
  rw [size_eq_ids_length, size_eq_ids_length]; exact (childOf_ids_sublist pid side t).length_le

theorem childOf_nodup {pid : Nat} {side : Bool} {t : PNode} (h : t.ids.Nodup) :
    (childOf pid side t).ids.Nodup :=
  (childOf_ids_sublist pid side t).nodup h

theorem childOf_kidsLinked {pid : Nat} {side : Bool} {t : PNode} (h : KidsLinked t) :
    KidsLinked (childOf pid side t) := by
  rcases childOf_nil_or_mem pid side t with e | e
  · rw [e]; trivial
  · exact kidsLinked_of_mem_pre e h

theorem childOf_arity {ar : Nat → Nat} {pid : Nat} {side : Bool} {t : PNode} (h : Arity ar t) :
    Arity ar (childOf pid side t) := by
  rcases childOf_nil_or_mem pid side t with e | e
  · rw [e]; trivial
  · exact arity_of_mem_pre e h

theorem pid_not_mem_childOf {pid : Nat} {side : Bool} {t : PNode} (h : t.ids.Nodup) :
    pid ∉ (childOf pid side t).ids := by
  by_cases hmem : pid ∈ t.ids
  · revert t
    apply slot_induction
    · intro lb par flag l r hl hr
      rw [childOf_here]; cases side <;> assumption
    · intro i lb par flag l r hi hl hr _ ih
      rwa [childOf_left hi hl]
    · intro i lb par flag l r hi hl hr _ ih
      rwa [childOf_right hi hl]
  · exact fun hx => hmem (childOf_ids_subset hx)

/-- `(identity, label)` of every node, in pre-order -/
def nodes : PNode → List (Nat × Lbl)
  | nil => []
  | mk i lb _ _ l r => (i, lb) :: (l.nodes ++ r.nodes)

theorem ids_eq_nodes (t : PNode) : t.ids = t.nodes.map Prod.fst := by
  induction t with
  | nil => rfl
  | mk i lb p f l r ihl ihr => simp [ids, nodes, ihl, ihr]

theorem lbls_eq_nodes (t : PNode) : t.pre.map lbl? = t.nodes.map (fun x => some x.2) := by
  induction t with
  | nil => rfl
  | mk i lb p f l r ihl ihr => simp [pre_mk, nodes, lbl?, ihl, ihr]

theorem ids_relink (pid side) (b : PNode) : (relink pid side b).ids = b.ids := by
  cases b <;> simp [relink, ids]

theorem nodes_relink (pid side) (b : PNode) : (relink pid side b).nodes = b.nodes := by
  cases b <;> simp [relink, nodes]

theorem id?_relink (pid side) (b : PNode) : (relink pid side b).id? = b.id? := by cases b <;> rfl

theorem size_relink (pid side) (b : PNode) : (relink pid side b).size = b.size := by cases b <;> rfl

theorem maxD_relink (pid side) (b : PNode) : (relink pid side b).maxD = b.maxD := by
  cases b with
  | nil => rfl
  | mk i lb par fl l r => show (mk i lb (some pid) side l r).maxD = _; rw [maxD_mk, maxD_mk]

theorem lbl?_relink (pid side) (b : PNode) : (relink pid side b).lbl? = b.lbl? := by cases b <;> rfl

theorem relink_eq_nil {pid side} {b : PNode} : relink pid side b = nil ↔ b = nil := by
  cases b <;> simp [relink]

theorem arity_relink {ar : Nat → Nat} {pid side} {b : PNode} (h : Arity ar b) :
    Arity ar (relink pid side b) := by
  cases b with
  | nil => trivial
  | mk i lb p f l r => exact h

theorem linked_relink (pid : Nat) (side : Bool) (b : PNode) (h : KidsLinked b) :
    Linked (some pid) side (relink pid side b) := by
  cases b with
  | nil => trivial
  | mk i lb par flag l r => exact ⟨rfl, rfl, h.1, h.2⟩

theorem pre_relink (pid side) (b : PNode) :
    (relink pid side b).pre = match b with
      | nil => []
      | mk i lb _ _ l r => mk i lb (some pid) side l r :: (l.pre ++ r.pre) := by
  cases b <;> rfl

theorem setChild_here (pid side b lb par flag l r) :
    setChild pid side b (mk pid lb par flag l r) =
      mk pid lb par flag (if side then relink pid side b else l)
        (if side then r else relink pid side b) := by
  cases side <;> simp [setChild]

theorem setChild_ne {pid i : Nat} (h : i ≠ pid) (side b lb par flag l r) :
    setChild pid side b (mk i lb par flag l r) =
      mk i lb par flag (setChild pid side b l) (setChild pid side b r) := by
  simp [setChild, h]

theorem setChild_of_not_mem (pid side b) :
    ∀ t : PNode, pid ∉ t.ids → setChild pid side b t = t := by
  intro t
  induction t with
  | nil => intro _; rfl
  | mk i lb par flag l r ihl ihr =>
    intro h
    rw [setChild_ne (fun e : i = pid => h (e ▸ List.mem_cons_self)),
      ihl fun hx => h (List.mem_cons_of_mem _ (List.mem_append_left _ hx)),
      ihr fun hx => h (List.mem_cons_of_mem _ (List.mem_append_right _ hx))]

theorem setChild_left {pid i : Nat} (h : i ≠ pid) {r : PNode} (hr : pid ∉ r.ids)
    (side b lb par flag l) :
    setChild pid side b (mk i lb par flag l r) = mk i lb par flag (setChild pid side b l) r := by
  rw [setChild_ne h, setChild_of_not_mem pid side b r hr]

theorem setChild_right {pid i : Nat} (h : i ≠ pid) {l : PNode} (hl : pid ∉ l.ids)
    (side b lb par flag r) :
    setChild pid side b (mk i lb par flag l r) = mk i lb par flag l (setChild pid side b r) := by
  rw [setChild_ne h, setChild_of_not_mem pid side b l hl]

theorem setChild_eq_nil {pid side b} {t : PNode} : setChild pid side b t = nil ↔ t = nil := by
  cases t with
  | nil => simp [setChild]
  | mk i lb par flag l r =>
    by_cases hi : i = pid <;> cases side <;> simp [setChild, hi]

theorem storedPar_setChild (pid side b) (t : PNode) :
    (setChild pid side b t).storedPar = t.storedPar := by
  cases t with
  | nil => rfl
  | mk i lb par flag l r =>
    by_cases hi : i = pid
    · subst hi; rw [setChild_here]; rfl
    · rw [setChild_ne hi]; rfl

theorem id?_setChild (pid side b) (t : PNode) : (setChild pid side b t).id? = t.id? := by
  cases t with
  | nil => rfl
  | mk i lb par flag l r =>
    by_cases hi : i = pid
    · subst hi; rw [setChild_here]; rfl
    · rw [setChild_ne hi]; rfl

theorem nodes_setChild_count (pid : Nat) (side : Bool) (b : PNode) (a : Nat × Lbl) :
    ∀ t : PNode, t.ids.Nodup → pid ∈ t.ids →
      (setChild pid side b t).nodes.count a + (childOf pid side t).nodes.count a =
        t.nodes.count a + b.nodes.count a := by
  apply slot_induction
  · intro lb par flag l r _ _
    cases side <;>
      simp only [setChild_here, childOf_here, Bool.false_eq_true, if_false, if_true, nodes,
        nodes_relink, List.count_cons, List.count_append] <;> omega
  · intro i lb par flag l r hi hl hr _ ih
    rw [setChild_left hi hr, childOf_left hi hl]
    simp only [nodes, List.count_cons, List.count_append]; omega
  · intro i lb par flag l r hi hl hr _ ih
    rw [setChild_right hi hl, childOf_right hi hl]
    simp only [nodes, List.count_cons, List.count_append]; omega

theorem nodes_setChild_perm {pid : Nat} {side : Bool} {b t : PNode}
    (hnd : t.ids.Nodup) (hmem : pid ∈ t.ids) :
    List.Perm ((setChild pid side b t).nodes ++ (childOf pid side t).nodes) (t.nodes ++ b.nodes) := by
  rw [List.perm_iff_count]
  intro a
  simp only [List.count_append]
  exact nodes_setChild_count pid side b a t hnd hmem

theorem ids_setChild_perm {pid : Nat} {side : Bool} {b t : PNode}
    (hnd : t.ids.Nodup) (hmem : pid ∈ t.ids) :
    List.Perm ((setChild pid side b t).ids ++ (childOf pid side t).ids) (t.ids ++ b.ids) := by
  have h := (nodes_setChild_perm (side := side) (b := b) hnd hmem).map Prod.fst
  simpa only [List.map_append, ← ids_eq_nodes] using h

theorem lbls_setChild_perm {pid : Nat} {side : Bool} {b t : PNode}
    (hnd : t.ids.Nodup) (hmem : pid ∈ t.ids) :
    List.Perm ((setChild pid side b t).pre.map lbl? ++ (childOf pid side t).pre.map lbl?)
      (t.pre.map lbl? ++ b.pre.map lbl?) := by
  have h := (nodes_setChild_perm (side := side) (b := b) hnd hmem).map (fun x => some x.2)
  simpa only [List.map_append, ← lbls_eq_nodes] using h

theorem ids_setChild_count (pid : Nat) (side : Bool) (b : PNode) (a : Nat) {t : PNode}
    (hnd : t.ids.Nodup) (hmem : pid ∈ t.ids) :
    (setChild pid side b t).ids.count a + (childOf pid side t).ids.count a =
      t.ids.count a + b.ids.count a := by
  have h := (ids_setChild_perm (side := side) (b := b) hnd hmem).count_eq a
  simpa only [List.count_append] using h

theorem mem_ids_setChild_of_mem {pid : Nat} {side : Bool} {b t : PNode} {x : Nat}
    (hnd : t.ids.Nodup) (hmem : pid ∈ t.ids) (hx : x ∈ t.ids)
    (hc : x ∉ (childOf pid side t).ids) : x ∈ (setChild pid side b t).ids :=
  -- a permutation has the same members, and `x` is not in the removed child
  (List.mem_append.1 ((ids_setChild_perm (side := side) (b := b) hnd hmem).mem_iff.2
    (List.mem_append_left _ hx))).resolve_right hc

theorem size_setChild {pid : Nat} {side : Bool} {b t : PNode} (hnd : t.ids.Nodup) (hmem : pid ∈ t.ids) :
    (setChild pid side b t).size + (childOf pid side t).size = t.size + b.size := by
  have h := (ids_setChild_perm (side := side) (b := b) hnd hmem).length_eq
  rwa [List.length_append, List.length_append, ← size_eq_ids_length, ← size_eq_ids_length,
    ← size_eq_ids_length, ← size_eq_ids_length] at h

theorem not_mem_setChild_of_mem_childOf {pid : Nat} {side : Bool} {b t : PNode} {x : Nat}
    (hnd : t.ids.Nodup) (hmem : pid ∈ t.ids) (hx : x ∈ (childOf pid side t).ids) (hb : x ∉ b.ids) :
    x ∉ (setChild pid side b t).ids := by
  intro hs
  have hc := ids_setChild_count pid side b x hnd hmem
  have h1 := List.nodup_iff_count.1 hnd x
  have h2 : 0 < (childOf pid side t).ids.count x := List.count_pos_iff.2 hx
  have h3 : b.ids.count x = 0 := List.count_eq_zero.2 hb
  have h4 : 0 < (setChild pid side b t).ids.count x := List.count_pos_iff.2 hs
  omega

/-- replacing one child by a root-shaped branch keeps every link right: the links and flags of
    everything else stay, the branch is linked to its new parent -/
theorem linked_setChild (pid : Nat) (side : Bool) (b : PNode) (hb : KidsLinked b) :
    ∀ (t : PNode) (p : Option Nat) (f : Bool), Linked p f t →
      Linked p f (setChild pid side b t) := by
  intro t
  induction t with
  | nil => intro p f h; simpa [setChild] using h
  | mk i lb par flag l r ihl ihr =>
    intro p f h
    obtain ⟨h1, h2, h3, h4⟩ := h
    by_cases hi : i = pid
    · subst hi
      rw [setChild_here]
      cases side
      · exact ⟨h1, h2, h3, linked_relink _ _ b hb⟩
      · exact ⟨h1, h2, linked_relink _ _ b hb, h4⟩
    · rw [setChild_ne hi]
      exact ⟨h1, h2, ihl _ _ h3, ihr _ _ h4⟩

theorem kidsLinked_setChild (pid : Nat) (side : Bool) (b : PNode) (hb : KidsLinked b)
    (t : PNode) (h : KidsLinked t) : KidsLinked (setChild pid side b t) := by
  cases t with
  | nil => trivial
  | mk i lb par flag l r =>
    have := linked_setChild pid side b hb (mk i lb par flag l r) par flag ⟨rfl, rfl, h.1, h.2⟩
    exact (linked_root this).1

/-- the arity test at a node only looks at which children are `nil` -/
theorem arity_mk_congr {ar : Nat → Nat} {lb : Lbl} {i i' p p' f f'} {l r l' r' : PNode}
    (h : Arity ar (mk i lb p f l r)) (hl : l' = nil ↔ l = nil) (hr : r' = nil ↔ r = nil)
    (hal : Arity ar l') (har : Arity ar r') : Arity ar (mk i' lb p' f' l' r') := by
  refine ⟨?_, hal, har⟩
  simp only [ne_eq, hl, hr]; exact h.1

theorem arity_setChild {ar : Nat → Nat} {pid : Nat} {side : Bool} {b : PNode}
    (hb : Arity ar b) (hbn : b ≠ nil) :
    ∀ t : PNode, t.ids.Nodup → pid ∈ t.ids → Arity ar t → childOf pid side t ≠ nil →
      Arity ar (setChild pid side b t) := by
  have hrn : ∀ {c : PNode}, c ≠ nil → (relink pid side b = nil ↔ c = nil) :=
    fun hc => ⟨fun e => absurd (relink_eq_nil.1 e) hbn, fun e => absurd e hc⟩
  apply slot_induction
  · intro lb par flag l r _ _ ha hc
    rw [setChild_here]
    cases side <;> simp only [childOf_here, Bool.false_eq_true, if_false, if_true] at hc ⊢
    · exact arity_mk_congr ha Iff.rfl (hrn hc) ha.2.1 (arity_relink hb)
    · exact arity_mk_congr ha (hrn hc) Iff.rfl (arity_relink hb) ha.2.2
  · intro i lb par flag l r hi hl hr _ ih ha hc
    rw [childOf_left hi hl] at hc
    rw [setChild_left hi hr]
    exact arity_mk_congr ha setChild_eq_nil Iff.rfl (ih ha.2.1 hc) ha.2.2
  · intro i lb par flag l r hi hl hr _ ih ha hc
    rw [childOf_right hi hl] at hc
    rw [setChild_right hi hl]
    exact arity_mk_congr ha Iff.rfl setChild_eq_nil ha.2.1 (ih ha.2.2 hc)

theorem mem_pre_setChild (pid : Nat) (side : Bool) (b : PNode) :
    ∀ t : PNode, ∀ n ∈ (setChild pid side b t).pre,
      n ∈ (relink pid side b).pre ∨
      ∃ n0 ∈ t.pre, n0.id? = n.id? ∧ n0.lbl? = n.lbl? ∧ n0.storedPar = n.storedPar ∧
        n0.storedFlag = n.storedFlag := by
  intro t
  induction t with
  | nil => intro n hn; simp [setChild, pre] at hn
  | mk i lb par flag l r ihl ihr =>
    intro n hn
    have old : ∀ {x : PNode}, x ∈ l.pre ∨ x ∈ r.pre → ∃ n0 ∈ (mk i lb par flag l r).pre,
        n0.id? = x.id? ∧ n0.lbl? = x.lbl? ∧ n0.storedPar = x.storedPar ∧
          n0.storedFlag = x.storedFlag :=
      fun h => ⟨_, mem_pre_mk.2 (Or.inr h), rfl, rfl, rfl, rfl⟩
    by_cases hi : i = pid
    · subst hi
      rw [setChild_here] at hn
      rcases mem_pre_mk.1 hn with e | e | e
      · subst e; exact Or.inr ⟨_, mem_pre_mk.2 (Or.inl rfl), rfl, rfl, rfl, rfl⟩
      · cases side
        · exact Or.inr (old (Or.inl e))
        · exact Or.inl e
      · cases side
        · exact Or.inl e
        · exact Or.inr (old (Or.inr e))
    · rw [setChild_ne hi] at hn
      rcases mem_pre_mk.1 hn with e | e | e
      · subst e; exact Or.inr ⟨_, mem_pre_mk.2 (Or.inl rfl), rfl, rfl, rfl, rfl⟩
      · exact (ihl n e).imp_right fun ⟨n0, h0, h⟩ => ⟨n0, mem_pre_mk.2 (Or.inr (Or.inl h0)), h⟩
      · exact (ihr n e).imp_right fun ⟨n0, h0, h⟩ => ⟨n0, mem_pre_mk.2 (Or.inr (Or.inr h0)), h⟩

theorem ids_setChild_subset (pid side) (b : PNode) :
    ∀ t : PNode, ∀ x ∈ (setChild pid side b t).ids, x ∈ t.ids ∨ x ∈ b.ids := by
  intro t x hx
  obtain ⟨n, hn, e⟩ := mem_ids_iff.1 hx
  rcases mem_pre_setChild pid side b t n hn with h | ⟨n0, h0, e0, _⟩
  · exact Or.inr (ids_relink pid side b ▸ id_mem_ids_of_mem_pre h e)
  · exact Or.inl (id_mem_ids_of_mem_pre h0 (e0.trans e))

theorem mem_pre_relink {pid side} {b n : PNode} (h : n ∈ (relink pid side b).pre) :
    b ∈ b.pre ∧ (n = relink pid side b ∨ n ∈ b.pre) := by
  cases b with
  | nil => simp [relink, pre] at h
  | mk j lb p f l r =>
    exact ⟨mem_pre_mk.2 (Or.inl rfl), (mem_pre_mk.1 h).imp_right fun h => mem_pre_mk.2 (Or.inr h)⟩

theorem setChild_childOf_of_not_mem {pid pid' : Nat} {side side' : Bool} {b t : PNode}
    (h : pid ∉ t.ids) : setChild pid side b (childOf pid' side' t) = childOf pid' side' t :=
  setChild_of_not_mem _ _ _ _ fun hx => h (childOf_ids_subset hx)

theorem slot_of_mem_pre (t : PNode) (hk : KidsLinked t) (hnd : t.ids.Nodup) (n : PNode)
    (hn : n ∈ t.pre) :
    n = t ∨ ∃ q, n.storedPar = some q ∧ q ∈ t.ids ∧ childOf q n.storedFlag t = n := by
  refine (stored_edge hk hn).imp_right fun ⟨m, hm, hp, hc⟩ => ?_
  obtain ⟨q, hq⟩ := exists_id_of_ne_nil (mem_pre_ne_nil _ _ hm)
  exact ⟨q, hp.trans hq, id_mem_ids_of_mem_pre hm hq, (childOf_eq_kidOn hnd hm hq _).trans hc⟩

theorem findNode_slot_cases {t : PNode} {p pid : Nat} {side : Bool}
    (h : findNode t p = .slot pid side) :
    ∃ node, t.pre[p]? = some node ∧
      ((node.isTermNode = true ∧ node.storedPar = some pid ∧ node.storedFlag = side) ∨
       (node.isTermNode = false ∧ ∃ q parent, node.storedPar = some q ∧
          lookup q t = some parent ∧ parent.storedPar = some pid ∧ parent.storedFlag = side)) := by
  unfold findNode at h
  rw [preOrder_eq] at h
  split at h
  · cases h
  · next node hp =>
    refine ⟨node, hp, ?_⟩
    split at h
    · next ht =>
      split at h
      · next q hs => cases h; exact Or.inl ⟨ht, hs, rfl⟩
      · cases h
    · next ht =>
      split at h
      · cases h
      · next q hs =>
        split at h
        · cases h
        · next parent hl =>
          split at h
          · next g hg => cases h; exact Or.inr ⟨Bool.eq_false_iff.2 ht, q, parent, hs, hl, hg, rfl⟩
          · cases h

/-- `find_node` in terms of `childOf`; in terms of `parentOf` (what C11 states): `WF.findNode_eq` (TreeLemmas). -/
theorem findNode_slot_spec {ar : Nat → Nat} {t : PNode} {p pid : Nat} {side : Bool}
    (hwf : WF ar t) (h : findNode t p = .slot pid side) :
    pid ∈ t.ids ∧ ∃ node, t.pre[p]? = some node ∧
      ((node.isTermNode = true ∧ childOf pid side t = node) ∨
       (node.isTermNode = false ∧ ∃ q, node.storedPar = some q ∧
          lookup q t = some (childOf pid side t))) := by
  obtain ⟨_, hroot, hk, _, hnd⟩ := hwf
  obtain ⟨node, hp, hc⟩ := findNode_slot_cases h
  have hnode : node ∈ t.pre := List.mem_of_getElem? hp
  rcases hc with ⟨ht, hs, hf⟩ | ⟨ht, q, parent, hs, hl, hg, hf⟩
  · rcases slot_of_mem_pre t hk hnd node hnode with e | ⟨q', hq', hm, hc⟩
    · subst e; rw [hroot] at hs; cases hs
    · rw [hs] at hq'; cases hq'; subst hf
      exact ⟨hm, node, hp, Or.inl ⟨ht, hc⟩⟩
  · rcases slot_of_mem_pre t hk hnd parent (lookup_some hl).1 with e | ⟨q', hq', hm, hc⟩
    · subst e; rw [hroot] at hg; cases hg
    · rw [hg] at hq'; cases hq'; subst hf
      exact ⟨hm, node, hp, Or.inr ⟨ht, q, hs, by rw [hc]; exact hl⟩⟩

theorem findNode_slot_mem {ar : Nat → Nat} {t : PNode} {p pid : Nat} {side : Bool}
    (hwf : WF ar t) (h : findNode t p = .slot pid side) : pid ∈ t.ids :=
  (findNode_slot_spec hwf h).1

theorem cross_cases {f m f' m' : PNode} {pf pm : Nat} (h : cross f m pf pm = some (f', m')) :
    (∃ sf ff sm fm, findNode f pf = .slot sf ff ∧ findNode m pm = .slot sm fm ∧
        f' = setChild sf ff (childOf sm fm m) f ∧ m' = setChild sm fm (childOf sf ff f) m) ∨
    (f' = f ∧ m' = m) := by
  unfold cross at h
  split at h
  · cases h
  · cases h
  · next sf ff sm fm hf hm => cases h; exact Or.inl ⟨sf, ff, sm, fm, hf, hm, rfl, rfl⟩
  · cases h; exact Or.inr ⟨rfl, rfl⟩

theorem mutate_cases {t b t' : PNode} {p : Nat} (h : mutate t p b = some t') :
    (∃ pid side, findNode t p = .slot pid side ∧ t' = setChild pid side b t) ∨ t' = b := by
  unfold mutate at h
  split at h
  · cases h
  · next pid side hf => cases h; exact Or.inl ⟨pid, side, hf, rfl⟩
  · cases h; exact Or.inr rfl

theorem cross_nodes_perm {ar : Nat → Nat} {f m f' m' : PNode} {pf pm : Nat}
    (hf : WF ar f) (hm : WF ar m) (h : cross f m pf pm = some (f', m')) :
    List.Perm (f'.nodes ++ m'.nodes) (f.nodes ++ m.nodes) := by
  rcases cross_cases h with ⟨sf, ff, sm, fm, hsf, hsm, rfl, rfl⟩ | ⟨rfl, rfl⟩
  · rw [List.perm_iff_count]
    intro a
    have h1 := nodes_setChild_count sf ff (childOf sm fm m) a f hf.nodup (findNode_slot_mem hf hsf)
    have h2 := nodes_setChild_count sm fm (childOf sf ff f) a m hm.nodup (findNode_slot_mem hm hsm)
    simp only [List.count_append]
    omega
  · exact List.Perm.refl _

theorem cross_ids_perm {ar : Nat → Nat} {f m f' m' : PNode} {pf pm : Nat}
    (hf : WF ar f) (hm : WF ar m) (h : cross f m pf pm = some (f', m')) :
    List.Perm (f'.ids ++ m'.ids) (f.ids ++ m.ids) := by
  have := (cross_nodes_perm hf hm h).map Prod.fst
  simpa only [List.map_append, ← ids_eq_nodes] using this

theorem mutate_ids_subset {t b t' : PNode} {p : Nat} (h : mutate t p b = some t') :
    ∀ x ∈ t'.ids, x ∈ t.ids ∨ x ∈ b.ids := by
  rcases mutate_cases h with ⟨pid, side, _, rfl⟩ | rfl
  · exact ids_setChild_subset _ _ _ _
  · exact fun x hx => Or.inr hx

theorem cross_ids_subset {f m f' m' : PNode} {pf pm : Nat} (h : cross f m pf pm = some (f', m')) :
    ∀ x, x ∈ f'.ids ∨ x ∈ m'.ids → x ∈ f.ids ∨ x ∈ m.ids := by
  rcases cross_cases h with ⟨sf, ff, sm, fm, _, _, rfl, rfl⟩ | ⟨rfl, rfl⟩
  · rintro x (hx | hx)
    · exact (ids_setChild_subset _ _ _ _ x hx).imp_right childOf_ids_subset
    · exact ((ids_setChild_subset _ _ _ _ x hx).imp_right childOf_ids_subset).symm
  · exact fun x hx => hx

theorem wf_of_wfB {ar : Nat → Nat} {t : PNode} (h : wfB ar t = true) : WF ar t :=
  wfB_sound ar t h

end PNode
end Opy
