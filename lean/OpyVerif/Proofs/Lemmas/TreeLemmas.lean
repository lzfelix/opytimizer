import OpyVerif.Proofs.Lemmas.TreeBasics
/-!
Helper lemmas for C11 (post-order, `_properties`, `find_node`).  Core Lean only.
Defines: `parentOf`, `idOf` (in the C11 slot statements); on forests `sizeL`, `fleaves`, `fminD`, `fheight`, `fkids`, `nLeafRoots`.
-/
namespace Opy
namespace PNode

/-- Processing subtree `c` with `st` below appends `c.post` and returns to popping `st`,
    provided the node on top of `st` cannot be mistaken for a right child inside `c`. -/
theorem postLoop_sub : ∀ (c : PNode) (fuel : Nat) (st out : List PNode),
    c.ids.Nodup → (∀ x j, st.head? = some x → x.id? = some j → j ∉ c.ids) →
    postLoop (fuel + c.cost) c st out = postLoop fuel nil st (out ++ c.post) := by
  intro c
  induction c with
  | nil => intro fuel st out _ _; simp [cost, post]
  | mk i lb p f l r ihl ihr =>
    intro fuel st out hnd hst
    obtain ⟨hil, hir, hl, hr, hlr⟩ := nodup_mk hnd
    -- while this node is on top of the stack, a sub-tree without `i` is walked undisturbed
    have top : ∀ {c : PNode} (st' : List PNode), i ∉ c.ids →
        ∀ x j, (mk i lb p f l r :: st').head? = some x → x.id? = some j → j ∉ c.ids := by
      intro c st' hc x j hx hj; cases hx; cases hj; exact hc
    cases hrn : r.isNil with
    | true =>
      have e : fuel + (mk i lb p f l r).cost = (fuel + 1 + l.cost) + 1 := by
        simp [cost, hrn]; omega
      rw [e, postLoop, hrn, if_pos rfl, ihl _ _ _ hl (top _ hil), (isNil_iff r).1 hrn]
      cases st <;> simp [postLoop, rightOf, isNil, post]
    | false =>
      have e : fuel + (mk i lb p f l r).cost = (fuel + 1 + r.cost + 1 + l.cost) + 1 := by
        simp [cost, hrn]; omega
      rw [e, postLoop, hrn, if_neg Bool.false_ne_true, ihl _ _ _ hl (top _ hil)]
      simp only [postLoop, rightOf, hrn, Bool.not_false, Bool.true_and, beq_self_eq_true, if_true]
      rw [ihr _ _ _ hr (top _ hir)]
      cases st with
      | nil => simp [postLoop, post]
      | cons t rest =>
        have hne : (t.id? == r.id?) = false := by
          rw [beq_eq_false_iff_ne]
          intro e
          obtain ⟨ri, hri⟩ := exists_id_of_ne_nil ((isNil_eq_false_iff r).1 hrn)
          exact hst t ri rfl (e.trans hri)
            (List.mem_cons_of_mem _ (List.mem_append_right _ (id?_mem_ids hri)))
        simp [postLoop, rightOf, hrn, hne, post]

theorem postLoop_nil_nil (fuel : Nat) (out : List PNode) : postLoop fuel nil [] out = out := by
  cases fuel <;> rfl

def sizeL (ts : List PNode) : Nat := (ts.map size).sum
def fleaves (ts : List PNode) : Nat := (ts.map leaves).sum
/-- minimum of `minD` over a non-empty forest (0 on the empty one) -/
def fminD : List PNode → Nat
  | [] => 0
  | [t] => t.minD
  | t :: ts => min t.minD (fminD ts)
def fkids (ts : List PNode) : List PNode := ts.flatMap kids
def nLeafRoots (ts : List PNode) : Nat := (ts.filter childless).length

theorem nLeafRoots_cons (t : PNode) (ts : List PNode) :
    nLeafRoots (t :: ts) = (if t.childless then 1 else 0) + nLeafRoots ts := by
  cases h : t.childless <;> simp [nLeafRoots, h]; omega

theorem fkids_cons (t : PNode) (ts : List PNode) : fkids (t :: ts) = t.kids ++ fkids ts := rfl

theorem level_spec (d : Nat) : ∀ (ns : List PNode) (minD lv cnt : Nat) (next : List PNode),
    level d ns (minD, lv, cnt, next) =
      (if minD = 0 ∧ 0 < nLeafRoots ns then d else minD,
       lv + nLeafRoots ns, cnt + ns.length, next ++ fkids ns) := by
  intro ns
  induction ns with
  | nil => intro minD lv cnt next; simp [level, nLeafRoots, fkids]
  | cons n ns ih =>
    intro minD lv cnt next
    simp only [level]
    rw [ih, nLeafRoots_cons, fkids_cons, List.length_cons, List.append_assoc]
    cases n.childless <;> by_cases hm : minD = 0 <;> simp [hm, Nat.add_assoc, Nat.add_comm 1]

theorem sizeL_append (a b : List PNode) : sizeL (a ++ b) = sizeL a + sizeL b := by
  simp [sizeL]

theorem fleaves_append (a b : List PNode) : fleaves (a ++ b) = fleaves a + fleaves b := by
  simp [fleaves]

theorem fminD_cons (t : PNode) (ts : List PNode) (h : ts ≠ []) :
    fminD (t :: ts) = min t.minD (fminD ts) := by
  cases ts with
  | nil => exact absurd rfl h
  | cons => rfl

theorem fminD_append (a b : List PNode) (ha : a ≠ []) (hb : b ≠ []) :
    fminD (a ++ b) = min (fminD a) (fminD b) := by
  induction a with
  | nil => exact absurd rfl ha
  | cons x a ih =>
    cases a with
    | nil => exact fminD_cons _ _ hb
    | cons y a =>
      rw [List.cons_append, fminD_cons x _ (by simp), ih (by simp), fminD_cons x (y :: a) (by simp),
        Nat.min_assoc]

/-- number of levels of a forest -/
def fheight : List PNode → Nat
  | [] => 0
  | t :: ts => max (t.maxD + 1) (fheight ts)

theorem fheight_append (a b : List PNode) : fheight (a ++ b) = max (fheight a) (fheight b) := by
  induction a with
  | nil => simp [fheight]
  | cons x a ih => simp only [List.cons_append, fheight, ih, Nat.max_assoc]

theorem kids_ne_nil : ∀ (t k : PNode), k ∈ t.kids → k ≠ nil
  | mk _ _ _ _ l r, k, hk => by
    rintro rfl
    cases l <;> cases r <;> simp [kids, isNil] at hk

theorem fkids_ne_nil (ts : List PNode) : ∀ k ∈ fkids ts, k ≠ nil := fun k hk =>
  have ⟨t, _, hkt⟩ := List.mem_flatMap.1 hk
  kids_ne_nil t k hkt

theorem tree_step (t : PNode) (h : t ≠ nil) :
    (t.kids = [] ↔ t.childless = true) ∧
    t.size = 1 + sizeL t.kids ∧
    t.leaves = (if t.childless then 1 else 0) + fleaves t.kids ∧
    t.maxD = fheight t.kids ∧
    t.minD = (if t.childless then 0 else 1 + fminD t.kids) := by
  cases t with
  | nil => exact absurd rfl h
  | mk i lb p f l r =>
    rw [leaves_mk, maxD_mk, minD_mk, size]
    by_cases hl : l = nil <;> by_cases hr : r = nil <;>
      simp [kids, childless, isNil_iff, hl, hr, sizeL, fleaves, fheight, fminD,
        size, leaves, maxD, Nat.add_comm 1, Nat.add_assoc]

theorem sizeL_level {ts : List PNode} (hnn : ∀ t ∈ ts, t ≠ nil) : sizeL ts = ts.length + sizeL (fkids ts) := by
  induction ts with
  | nil => rfl
  | cons t ts ih =>
    rw [fkids_cons, sizeL_append, List.length_cons]
    show t.size + sizeL ts = _
    obtain ⟨_, hsize, _⟩ := tree_step t (hnn t List.mem_cons_self)
    rw [hsize, ih fun t ht => hnn t (List.mem_cons_of_mem _ ht), Nat.add_add_add_comm, Nat.add_comm 1]

theorem fleaves_level {ts : List PNode} (hnn : ∀ t ∈ ts, t ≠ nil) : fleaves ts = nLeafRoots ts + fleaves (fkids ts) := by
  induction ts with
  | nil => rfl
  | cons t ts ih =>
    rw [fkids_cons, fleaves_append, nLeafRoots_cons]
    show t.leaves + fleaves ts = _
    obtain ⟨_, _, hleaves, _⟩ := tree_step t (hnn t List.mem_cons_self)
    rw [hleaves, ih fun t ht => hnn t (List.mem_cons_of_mem _ ht), Nat.add_add_add_comm]

theorem fheight_level {ts : List PNode} (hnn : ∀ t ∈ ts, t ≠ nil) (hne : ts ≠ []) : fheight ts = 1 + fheight (fkids ts) := by
  induction ts with
  | nil => exact absurd rfl hne
  | cons t ts ih =>
    obtain ⟨_, _, _, hmaxD, _⟩ := tree_step t (hnn t List.mem_cons_self)
    rw [fkids_cons, fheight_append, fheight, hmaxD]
    cases ts with
    | nil => rw [fkids, List.flatMap_nil, fheight, Nat.max_zero, Nat.max_zero, Nat.add_comm]
    | cons u us =>
      rw [ih (fun t ht => hnn t (List.mem_cons_of_mem _ ht)) (List.cons_ne_nil _ _), Nat.add_comm _ 1,
        Nat.add_max_add_left]

theorem fkids_ne_of_no_leaf {ts : List PNode} (hnn : ∀ t ∈ ts, t ≠ nil) (hne : ts ≠ []) (h0 : nLeafRoots ts = 0) : fkids ts ≠ [] := by
  cases ts with
  | nil => exact absurd rfl hne
  | cons t ts =>
    obtain ⟨h1, _⟩ := tree_step t (hnn t List.mem_cons_self)
    rw [nLeafRoots_cons] at h0
    have hk : t.kids ≠ [] := fun h => by simp [h1.1 h] at h0
    rw [fkids_cons]
    exact fun h => hk (List.append_eq_nil_iff.1 h).1

theorem fminD_level {ts : List PNode} (hnn : ∀ t ∈ ts, t ≠ nil) (hne : ts ≠ []) :
    fminD ts = if 0 < nLeafRoots ts then 0 else 1 + fminD (fkids ts) := by
  induction ts with
  | nil => exact absurd rfl hne
  | cons t ts ih =>
    obtain ⟨h1, _, _, _, h2⟩ := tree_step t (hnn t List.mem_cons_self)
    have hns : ∀ t ∈ ts, t ≠ nil := fun t ht => hnn t (List.mem_cons_of_mem _ ht)
    rw [nLeafRoots_cons, fkids_cons]
    cases ts with
    | nil => cases hc : t.childless <;> simp [fminD, h2, hc, nLeafRoots, fkids]
    | cons u us =>
      rw [fminD_cons _ _ (List.cons_ne_nil _ _), ih hns (List.cons_ne_nil _ _), h2]
      cases hc : t.childless with
      | true => rw [if_pos rfl, if_pos rfl, Nat.zero_min, if_pos (Nat.add_pos_left Nat.one_pos _)]
      | false =>
        rw [if_neg Bool.false_ne_true, if_neg Bool.false_ne_true, Nat.zero_add]
        by_cases hp : 0 < nLeafRoots (u :: us)
        · rw [if_pos hp, Nat.min_zero, if_pos hp]
        · -- no childless root at all: `t` has children and so has the rest (`fminD_append` needs both)
          have hk : t.kids ≠ [] := fun h => Bool.false_ne_true (hc.symm.trans (h1.1 h))
          rw [if_neg hp, Nat.add_min_add_left, if_neg hp, fminD_append _ _ hk
            (fkids_ne_of_no_leaf hns (List.cons_ne_nil _ _) (Nat.eq_zero_of_not_pos hp))]

theorem bfs_nil (fuel : Nat) (mx : Int) (m lv cnt : Nat) : bfs fuel [] mx m lv cnt = ⟨m, mx, lv, cnt⟩ := by
  cases fuel <;> rfl

/-- the outer loop from a level on: `d` is the depth of the roots of `ts`.  At depth 0 the
    sentinel test `min_depth == 0` cannot tell "unset" from "set to 0", which is harmless only
    because level 0 is a single node. -/
theorem bfs_forest : ∀ (fuel : Nat) (ts : List PNode) (mx : Int) (d m lv cnt : Nat),
    ts ≠ [] → (∀ t ∈ ts, t ≠ nil) → (1 ≤ d ∨ ∃ t, ts = [t]) → mx + 1 = (d : Int) →
    fheight ts ≤ fuel →
    bfs fuel ts mx m lv cnt =
      ⟨if m = 0 then d + fminD ts else m, mx + (fheight ts : Nat),
       lv + fleaves ts, cnt + sizeL ts⟩ := by
  intro fuel
  induction fuel with
  | zero =>
    intro ts mx d m lv cnt hne hnn _ _ h
    rw [fheight_level hnn hne] at h; omega
  | succ k ih =>
    intro ts mx d m lv cnt hne hnn hd hmx hfuel
    rw [sizeL_level hnn, fleaves_level hnn, fheight_level hnn hne, fminD_level hnn hne]
    rw [fheight_level hnn hne] at hfuel
    obtain ⟨t0, ts0, rfl⟩ := List.exists_cons_of_ne_nil hne
    have hd0 : (mx + 1).toNat = d := by rw [hmx, Int.toNat_natCast]
    simp only [bfs]
    rw [hd0, level_spec, List.nil_append, ← Nat.add_assoc, ← Nat.add_assoc, Int.natCast_add, ← Int.add_assoc]
    by_cases hk : fkids (t0 :: ts0) = []
    · have hlr : 0 < nLeafRoots (t0 :: ts0) :=
        Nat.pos_of_ne_zero fun h0 => fkids_ne_of_no_leaf hnn hne h0 hk
      rw [hk, bfs_nil, if_pos hlr]
      by_cases hm : m = 0 <;> simp [hm, hlr, fheight, fleaves, sizeL]
    · -- a leaf at depth 0 next to a further level would leave the sentinel unset
      have hd' : 0 < nLeafRoots (t0 :: ts0) → d ≠ 0 := by
        rintro hp rfl
        obtain ⟨t, ht⟩ := hd.resolve_left (Nat.not_succ_le_zero 0)
        obtain ⟨rfl, rfl⟩ := List.cons.inj ht
        obtain ⟨h1, _⟩ := tree_step t0 (hnn t0 List.mem_cons_self)
        rw [nLeafRoots_cons] at hp
        cases hc : t0.childless
        · simp [hc, nLeafRoots] at hp
        · exact hk (by rw [fkids_cons, h1.2 hc]; rfl)
      rw [ih _ _ (d + 1) _ _ _ hk (fkids_ne_nil _) (Or.inl (Nat.le_add_left 1 d)) (by rw [hmx]; rfl)
        (by omega)]
      congr 1
      by_cases hm : m = 0
      · by_cases hp : 0 < nLeafRoots (t0 :: ts0)
        · simp [hm, hp, hd' hp]
        · simp [hm, hp]; exact Nat.add_assoc ..
      · simp [hm]

def idOf : PNode → Nat
  | nil => 0
  | mk i _ _ _ _ _ => i

/-- Structural parent: search the tree for the node with identity `j`; answer the identity of
    the node it hangs under and whether it is that node's *left* child.  Stored links
    (`par`, `flag`) are not consulted. -/
def parentOf : PNode → Nat → Option (Nat × Bool)
  | nil, _ => none
  | mk i _ _ _ l r, j =>
    if l.id? = some j then some (i, true)
    else if r.id? = some j then some (i, false)
    else match parentOf l j with
      | some x => some x
      | none => parentOf r j

theorem id?_eq_idOf {t : PNode} (h : t ≠ nil) : t.id? = some (idOf t) := by
  cases t with
  | nil => exact absurd rfl h
  | mk => rfl

theorem idOf_of_id? {m : PNode} {q : Nat} (h : m.id? = some q) : idOf m = q := by
  cases m with
  | nil => simp [id?] at h
  | mk => simpa [id?, idOf] using h

theorem parentOf_mk_some {i lb p f} {l r : PNode} {j : Nat} {x : Nat × Bool}
    (h : parentOf (mk i lb p f l r) j = some x) :
    (l.id? = some j ∧ x = (i, true)) ∨ (r.id? = some j ∧ x = (i, false)) ∨
      parentOf l j = some x ∨ parentOf r j = some x := by
  rw [parentOf] at h
  split at h
  · next hl => exact Or.inl ⟨hl, (Option.some.inj h).symm⟩
  · split at h
    · next hr => exact Or.inr (Or.inl ⟨hr, (Option.some.inj h).symm⟩)
    · split at h
      · next y hy => exact Or.inr (Or.inr (Or.inl (hy.trans h)))
      · exact Or.inr (Or.inr (Or.inr h))

theorem parentOf_mem : ∀ (t : PNode) (j : Nat) (x : Nat × Bool),
    parentOf t j = some x → j ∈ t.ids.tail := by
  intro t
  induction t with
  | nil => intro j x h; cases h
  | mk i lb p f l r ihl ihr =>
    intro j x h
    simp only [ids, List.tail_cons, List.mem_append]
    rcases parentOf_mk_some h with ⟨hl, rfl⟩ | ⟨hr, rfl⟩ | hl | hr
    · exact Or.inl (id?_mem_ids hl)
    · exact Or.inr (id?_mem_ids hr)
    · exact Or.inl (List.mem_of_mem_tail (ihl j x hl))
    · exact Or.inr (List.mem_of_mem_tail (ihr j x hr))

theorem root_id_not_in_tail {t : PNode} (h : t.ids.Nodup) {j : Nat} (hj : j ∈ t.ids.tail) :
    t.id? ≠ some j := by
  cases t with
  | nil => simp [id?]
  | mk i lb p f l r => intro e; cases e; exact (List.nodup_cons.1 h).1 hj

theorem parentOf_root_none (t : PNode) (h : t.ids.Nodup) (j : Nat) (hj : t.id? = some j) :
    parentOf t j = none := by
  cases hp : parentOf t j with
  | none => rfl
  | some x => exact absurd hj (root_id_not_in_tail h (parentOf_mem t j x hp))

/-- `parentOf` only answers real edges of the tree … -/
theorem parentOf_sound : ∀ (t : PNode) (j q : Nat) (s : Bool), parentOf t j = some (q, s) →
    ∃ m ∈ t.pre, m.id? = some q ∧ (kidOn m s).id? = some j := by
  intro t
  induction t with
  | nil => intro j q s h; cases h
  | mk i lb p f l r ihl ihr =>
    intro j q s h
    rcases parentOf_mk_some h with ⟨hl, e⟩ | ⟨hr, e⟩ | hl | hr
    · cases e; exact ⟨_, mem_pre_mk.2 (Or.inl rfl), rfl, hl⟩
    · cases e; exact ⟨_, mem_pre_mk.2 (Or.inl rfl), rfl, hr⟩
    · obtain ⟨m, hm, h⟩ := ihl j q s hl
      exact ⟨m, mem_pre_mk.2 (Or.inr (Or.inl hm)), h⟩
    · obtain ⟨m, hm, h⟩ := ihr j q s hr
      exact ⟨m, mem_pre_mk.2 (Or.inr (Or.inr hm)), h⟩

/-- … and, when identities are distinct, answers every edge. -/
theorem parentOf_complete : ∀ (t : PNode), t.ids.Nodup → ∀ (m : PNode) (j q : Nat) (s : Bool),
    m ∈ t.pre → m.id? = some q → (kidOn m s).id? = some j → parentOf t j = some (q, s) := by
  intro t
  induction t with
  | nil => intro _ m j q s h; simp [pre] at h
  | mk i lb p f l r ihl ihr =>
    intro hnd m j q s hm hq hj
    obtain ⟨hil, hir, hl, hr, hlr⟩ := nodup_mk hnd
    rcases mem_pre_mk.1 hm with hm | hm | hm
    · subst hm
      simp only [id?, Option.some.injEq] at hq
      subst hq
      cases s with
      | true =>
        have hlj : l.id? = some j := hj
        simp [parentOf, hlj]
      | false =>
        have hrj : r.id? = some j := hj
        have hlid : l.id? ≠ some j := fun e => hlr _ (id?_mem_ids e) (id?_mem_ids hrj)
        simp [parentOf, hlid, hrj]
    · have hp := ihl hl m j q s hm hq hj
      have hjt := parentOf_mem l _ _ hp
      have hlid : l.id? ≠ some j := root_id_not_in_tail hl hjt
      have hrid : r.id? ≠ some j :=
        fun e => hlr _ (List.mem_of_mem_tail hjt) (id?_mem_ids e)
      simp [parentOf, hlid, hrid, hp]
    · -- `parentOf` searches `l` before `r`: the edge found in `r` counts because `j`, an identity of `r`, is none of `l`
      have hp := ihr hr m j q s hm hq hj
      have hjt := parentOf_mem r _ _ hp
      have hrid : r.id? ≠ some j := root_id_not_in_tail hr hjt
      have hlid : l.id? ≠ some j :=
        fun e => hlr _ (id?_mem_ids e) (List.mem_of_mem_tail hjt)
      have hlnone : parentOf l j = none := by
        cases hp' : parentOf l j with
        | none => rfl
        | some x =>
          exact (hlr _ (List.mem_of_mem_tail (parentOf_mem l _ x hp'))
            (List.mem_of_mem_tail hjt)).elim
      simp [parentOf, hlid, hrid, hlnone, hp]

theorem kidsLinked_parentOf (t : PNode) (hk : KidsLinked t) (hnd : t.ids.Nodup) (n : PNode)
    (hn : n ∈ t.pre) :
    n = t ∨ ∃ pid, n.storedPar = some pid ∧ parentOf t (idOf n) = some (pid, n.storedFlag) := by
  refine (stored_edge hk hn).imp_right fun ⟨m, hm, hp, hc⟩ => ?_
  have hq := id?_eq_idOf (mem_pre_ne_nil _ _ hm)
  exact ⟨_, hp.trans hq, parentOf_complete t hnd m _ _ _ hm hq
    (by rw [hc]; exact id?_eq_idOf (mem_pre_ne_nil _ _ hn))⟩

theorem WF.stored_eq_parentOf {ar : Nat → Nat} {t : PNode} (hwf : WF ar t) {n : PNode}
    (hn : n ∈ t.pre) :
    n.storedPar.map (fun q => (q, n.storedFlag)) = parentOf t (idOf n) := by
  obtain ⟨hne, hsp, hkl, _, hnd⟩ := hwf
  rcases kidsLinked_parentOf t hkl hnd n hn with rfl | ⟨pid, h1, h2⟩
  · rw [hsp, parentOf_root_none n hnd _ (id?_eq_idOf hne)]; rfl
  · rw [h1, h2]; rfl

/-- `find_node` in terms of `parentOf` (what C11 states); in terms of `childOf` (what the operators
    need): `findNode_slot_spec` (TreeOpsLemmas). -/
theorem WF.findNode_eq {ar : Nat → Nat} {t : PNode} (hwf : WF ar t) {p : Nat} {n : PNode}
    (hn : t.pre[p]? = some n) :
    findNode t p =
      match parentOf t (idOf n) with
      | none => if n.isTermNode then .noSlot else .error
      | some (q, s) =>
        if n.isTermNode then .slot q s
        else match parentOf t q with
          | some (g, s2) => .slot g s2
          | none => .noSlot := by
  have hnd := hwf.nodup
  have hmem : n ∈ t.pre := List.mem_of_getElem? hn
  unfold findNode
  rw [preOrder_eq, hn, ← hwf.stored_eq_parentOf hmem]
  cases hp : n.storedPar with
  | none => cases ht : n.isTermNode <;> simp [hp, ht]
  | some q =>
    have hq : parentOf t (idOf n) = some (q, n.storedFlag) := by
      rw [← hwf.stored_eq_parentOf hmem, hp]; rfl
    obtain ⟨m, hm, hmid, _⟩ := parentOf_sound t _ _ _ hq
    have hm' := hwf.stored_eq_parentOf hm
    rw [idOf_of_id? hmid] at hm'
    cases ht : n.isTermNode <;> cases hs : m.storedPar <;>
      simp [hp, ht, hs, lookup_eq_some_of_mem_pre t hnd m hm q hmid, ← hm']

theorem ne_root_of_pos {t : PNode} (hnd : t.ids.Nodup) {p : Nat} (h1 : 1 ≤ p) {n : PNode}
    (hn : t.pre[p]? = some n) : n ≠ t := by
  rintro rfl
  -- the root stands at position 0 and `pre.map id?` has no entry twice
  have hne : n ≠ nil := mem_pre_ne_nil n n (List.mem_of_getElem? hn)
  have hlt : p < (n.pre.map id?).length := by
    rw [List.length_map]; exact (List.getElem?_eq_some_iff.1 hn).1
  have := (List.getElem?_inj hlt (pre_map_id?_nodup hnd) (j := 0)).1
    (by rw [List.getElem?_map, List.getElem?_map, hn, pre_head n hne])
  omega

theorem pre_getElem?_exists (t : PNode) (p : Nat) (h : p < t.size) : ∃ n, t.pre[p]? = some n := by
  rw [← pre_length] at h
  exact ⟨t.pre[p], List.getElem?_eq_getElem h⟩

end PNode
end Opy
