import OpyVerif.Model.EvalProg
/-!
Helper lemmas for C10 (tree evaluation): the operator table by kind of operator, the equations of
`evalTree` at a function node, and the induction behind totality and shape.  Core Lean only.
Defines: `ar10` (the arity table in the hypotheses of `evalTree_total`, `evalTree_shape`), `c10Tree`, `c10Env` (the witness of C10).
-/
namespace Opy

/-- the arity table of the ten operators by operator code (the generated constants file proves
    the library's `N_ARGS_FUNCTION` equal to it) -/
def ar10 : Nat → Nat := fun c => if c < 4 then 2 else if c < 10 then 1 else 0

section
variable {α : Type} [Elem α]

omit [Elem α] in
theorem zipW_eq_zipWith (f : α → α → α) : ∀ (x y : List α), zipW f x y = List.zipWith f x y
  | [], _ => rfl
  | _ :: _, [] => rfl
  | a :: x, b :: y => congrArg (f a b :: ·) (zipW_eq_zipWith f x y)

theorem ops_cases (eps : α) (c : Nat) :
    (c < 4 ∧ ar10 c = 2 ∧ ∃ nm e, expectedOps[c]? = some (nm, e) ∧ e.usesY = true ∧
      binOp eps c = some (fun x y => e.eval eps x y)) ∨
    (4 ≤ c ∧ c < 10 ∧ ar10 c = 1 ∧ ∃ nm e, expectedOps[c]? = some (nm, e) ∧ e.usesY = false ∧
      binOp eps c = none ∧ unOp eps c = some (fun x => e.eval eps x x)) ∨
    (10 ≤ c ∧ ar10 c = 0 ∧ expectedOps[c]? = none ∧ binOp eps c = none ∧ unOp eps c = none) :=
  match c with
  | 0 => .inl ⟨by decide, rfl, _, _, rfl, rfl, rfl⟩
  | 1 => .inl ⟨by decide, rfl, _, _, rfl, rfl, rfl⟩
  | 2 => .inl ⟨by decide, rfl, _, _, rfl, rfl, rfl⟩
  | 3 => .inl ⟨by decide, rfl, _, _, rfl, rfl, rfl⟩
  | 4 => .inr (.inl ⟨by decide, by decide, rfl, _, _, rfl, rfl, rfl, rfl⟩)
  | 5 => .inr (.inl ⟨by decide, by decide, rfl, _, _, rfl, rfl, rfl, rfl⟩)
  | 6 => .inr (.inl ⟨by decide, by decide, rfl, _, _, rfl, rfl, rfl, rfl⟩)
  | 7 => .inr (.inl ⟨by decide, by decide, rfl, _, _, rfl, rfl, rfl, rfl⟩)
  | 8 => .inr (.inl ⟨by decide, by decide, rfl, _, _, rfl, rfl, rfl, rfl⟩)
  | 9 => .inr (.inl ⟨by decide, by decide, rfl, _, _, rfl, rfl, rfl, rfl⟩)
  | c + 10 => .inr (.inr ⟨Nat.le_add_left .., (if_neg (by omega)).trans (if_neg (by omega)), rfl, rfl, rfl⟩)

theorem evalTree_bin {eps : α} {env : Nat → Option (List α)} {c : Nat} {g : α → α → α}
    (h : binOp eps c = some g) (i a p f l r) :
    evalTree eps env (.mk i ⟨false, c, a⟩ p f l r) =
      match evalTree eps env l, evalTree eps env r with
      | some x, some y => some (zipW g x y)
      | _, _ => none := by
  simp only [evalTree, h, Bool.false_eq_true, if_false]
  cases evalTree eps env l <;> cases evalTree eps env r <;> rfl

theorem evalTree_un {eps : α} {env : Nat → Option (List α)} {c : Nat} {g : α → α}
    (hb : binOp eps c = none) (h : unOp eps c = some g) (i a p f l r) :
    evalTree eps env (.mk i ⟨false, c, a⟩ p f l r) = (evalTree eps env l).map (List.map g) := by
  simp only [evalTree, hb, h, Bool.false_eq_true, if_false]
  cases evalTree eps env l <;> rfl

theorem evalTree_noop {eps : α} {env : Nat → Option (List α)} {c : Nat}
    (hb : binOp eps c = none) (h : unOp eps c = none) (i a p f l r) :
    evalTree eps env (.mk i ⟨false, c, a⟩ p f l r) = none := by
  simp only [evalTree, hb, h, Bool.false_eq_true, if_false]

theorem mem_lbls_mk {b : Lbl} {i lb p f} {l r : PNode}
    (h : some b ∈ l.pre.map PNode.lbl? ∨ some b ∈ r.pre.map PNode.lbl?) :
    some b ∈ (PNode.mk i lb p f l r).pre.map PNode.lbl? := by
  rw [PNode.pre, List.map_cons, List.map_append]
  exact List.mem_cons_of_mem _ (List.mem_append.2 h)

theorem evalTree_pred (eps : α) (env : Nat → Option (List α)) (P : List α → Prop)
    (hz : ∀ f x y, P x → P y → P (zipW f x y)) (hm : ∀ (g : α → α) x, P x → P (x.map g)) :
    ∀ (t : PNode), PNode.Arity ar10 t → t ≠ .nil →
      (∀ b, some b ∈ t.pre.map PNode.lbl? → b.isTerm = true → ∃ a, env b.arr = some a ∧ P a) →
      ∃ r, evalTree eps env t = some r ∧ P r := by
  intro t
  induction t with
  | nil => intro _ h; exact absurd rfl h
  | mk i lb p f l r ihl ihr =>
    intro ha _ hterm
    obtain ⟨h0, hal, har⟩ := ha
    obtain ⟨tm, c, a⟩ := lb
    cases tm with
    | true => exact hterm ⟨true, c, a⟩ List.mem_cons_self rfl
    | false =>
      simp only [Bool.false_eq_true, if_false] at h0
      rcases ops_cases eps c with ⟨_, h2, _, e, _, _, hg⟩ | ⟨_, _, h1, _, e, _, _, hb, hg⟩ | ⟨_, h3, _⟩
      · simp only [h2, Nat.reduceEqDiff, if_false, if_true] at h0
        obtain ⟨x, hx, hPx⟩ := ihl hal h0.1 (fun b hb => hterm b (mem_lbls_mk (.inl hb)))
        obtain ⟨y, hy, hPy⟩ := ihr har h0.2 (fun b hb => hterm b (mem_lbls_mk (.inr hb)))
        exact ⟨_, by rw [evalTree_bin hg, hx, hy], hz _ x y hPx hPy⟩
      · simp only [h1, if_true] at h0
        obtain ⟨x, hx, hPx⟩ := ihl hal h0.1 (fun b hb => hterm b (mem_lbls_mk (.inl hb)))
        exact ⟨_, by rw [evalTree_un hb hg, hx]; rfl, hm _ x hPx⟩
      · simp [h3] at h0

/-- witness tree `SUB(x0, ABS(x1))`: terminal 0 holds array 1, terminal 1 holds array 2 -/
def c10Tree : PNode :=
  .mk 0 ⟨false, 1, 0⟩ none true
    (.mk 1 ⟨true, 0, 1⟩ (some 0) true .nil .nil)
    (.mk 2 ⟨false, 7, 0⟩ (some 0) false (.mk 3 ⟨true, 1, 2⟩ (some 2) true .nil .nil) .nil)

/-- witness environment: array 1 = `[x]`, array 2 = `[y]` -/
def c10Env (x y : α) : Nat → Option (List α) :=
  fun a => if a = 1 then some [x] else if a = 2 then some [y] else none

end

end Opy
