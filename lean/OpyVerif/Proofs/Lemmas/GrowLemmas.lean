import OpyVerif.Proofs.Lemmas.TreeOpsLemmas
import OpyVerif.Proofs.Lemmas.ListLemmas
/-!
Helper lemmas for C08 (GROW, deep copy): `Grown`, the derivation relation of `grow`, over which every property of a grown
tree is an induction; the `shift` algebra; `drawsOk`, the range-respecting oracle of `grow_total`.
Also defines the inputs `exCfg`, `exCfgBad`, `exTree` of the `example`s.
-/
namespace Opy
namespace PNode

/-- `Grown cfg k ds nid t ds' nid'`: `grow cfg k ds nid` succeeds with `(t, ds', nid')`;
    one constructor per successful path through the code. -/
inductive Grown (cfg : GrowCfg) : Nat → List Nat → Nat → PNode → List Nat → Nat → Prop
  | leaf0 (d : Nat) (ds : List Nat) (nid : Nat) (h : d < cfg.nTerminals) :
      Grown cfg 0 (d :: ds) nid (mk nid ⟨true, d, d + 1⟩ none true nil nil) ds (nid + 1)
  | leafS (k d : Nat) (ds : List Nat) (nid : Nat) (h1 : ¬ d < cfg.funcs.length)
      (h2 : d < cfg.funcs.length + cfg.nTerminals) :
      Grown cfg (k + 1) (d :: ds) nid
        (mk nid ⟨true, d - cfg.funcs.length, d - cfg.funcs.length + 1⟩ none true nil nil) ds (nid + 1)
  | un (k d : Nat) (ds : List Nat) (nid : Nat) (c : PNode) (ds1 : List Nat) (n1 : Nat)
      (h1 : d < cfg.funcs.length) (h2 : cfg.ar cfg.funcs[d]! = 1)
      (hc : Grown cfg k ds (nid + 1) c ds1 n1) :
      Grown cfg (k + 1) (d :: ds) nid
        (mk nid ⟨false, cfg.funcs[d]!, 0⟩ none true (relink nid true c) nil) ds1 n1
  | bin (k d : Nat) (ds : List Nat) (nid : Nat) (c1 : PNode) (ds1 : List Nat) (n1 : Nat)
      (c2 : PNode) (ds2 : List Nat) (n2 : Nat)
      (h1 : d < cfg.funcs.length) (h2 : cfg.ar cfg.funcs[d]! = 2)
      (hc1 : Grown cfg k ds (nid + 1) c1 ds1 n1) (hc2 : Grown cfg k ds1 n1 c2 ds2 n2) :
      Grown cfg (k + 1) (d :: ds) nid
        (mk nid ⟨false, cfg.funcs[d]!, 0⟩ none true (relink nid true c1) (relink nid false c2)) ds2 n2

theorem grow_grown {cfg : GrowCfg} {k : Nat} {ds : List Nat} {nid : Nat} {t : PNode}
    {ds' : List Nat} {nid' : Nat} (h : grow cfg k ds nid = some (t, ds', nid')) :
    Grown cfg k ds nid t ds' nid' := by
  fun_induction grow cfg k ds nid generalizing t ds' nid' <;> cases h
  case case1 d ds nid hd => exact .leaf0 d ds nid hd
  case case3 k d ds nid hd op har c ds1 n1 hc ih => exact .un k d ds nid c ds1 n1 hd har (ih hc)
  case case5 k d ds nid hd op _ har c1 ds1 n1 hc1 c2 ds2 n2 hc2 ih1 ih2 =>
    exact .bin k d ds nid c1 ds1 n1 c2 ds2 n2 hd har (ih1 hc1) (ih2 hc2)
  case case9 h1 h2 => exact .leafS _ _ _ _ ‹_› ‹_›

theorem grown_grow {cfg : GrowCfg} {k : Nat} {ds : List Nat} {nid : Nat} {t : PNode}
    {ds' : List Nat} {nid' : Nat} (h : Grown cfg k ds nid t ds' nid') :
    grow cfg k ds nid = some (t, ds', nid') := by
  induction h with
  | leaf0 d ds nid h => exact if_pos h
  | leafS k d ds nid h1 h2 => exact (if_neg h1).trans (if_pos h2)
  | un k d ds nid c ds1 n1 h1 h2 hc ih =>
    refine (if_pos h1).trans ((if_pos h2).trans ?_)
    rw [ih]
  | bin k d ds nid c1 ds1 n1 c2 ds2 n2 h1 h2 hc1 hc2 ih1 ih2 =>
    refine (if_pos h1).trans ((if_neg (by rw [h2]; decide)).trans ((if_pos h2).trans ?_))
    rw [ih1]; dsimp only; rw [ih2]

theorem ids_range_mk {i lb p f} {l r : PNode} {m n : Nat}
    (hl : l.ids = List.range' (i + 1) l.size ∧ m = i + 1 + l.size)
    (hr : r.ids = List.range' m r.size ∧ n = m + r.size) :
    (mk i lb p f l r).ids = List.range' i (mk i lb p f l r).size ∧ n = i + (mk i lb p f l r).size := by
  show i :: (l.ids ++ r.ids) = List.range' i (1 + l.size + r.size) ∧ n = i + (1 + l.size + r.size)
  -- the two ranges join (`range'_append_1`), the root goes in front (`range'_succ`)
  rw [hl.1, hr.1, hr.2, hl.2, List.range'_append_1, show 1 + l.size + r.size = l.size + r.size + 1 by omega,
    List.range'_succ]
  exact ⟨rfl, by omega⟩

theorem ids_range_relink {p : Nat} {s : Bool} {t : PNode} {a b : Nat}
    (h : t.ids = List.range' a t.size ∧ b = a + t.size) :
    (relink p s t).ids = List.range' a (relink p s t).size ∧ b = a + (relink p s t).size := by
  rw [ids_relink, size_relink]; exact h

section grown
variable {cfg : GrowCfg} {k : Nat} {ds : List Nat} {nid : Nat} {t : PNode} {ds' : List Nat} {nid' : Nat}

theorem Grown.ne_nil (h : Grown cfg k ds nid t ds' nid') : t ≠ nil := by
  induction h <;> nofun

theorem Grown.storedPar (h : Grown cfg k ds nid t ds' nid') : t.storedPar = none := by
  induction h <;> rfl

theorem Grown.kidsLinked (h : Grown cfg k ds nid t ds' nid') : KidsLinked t := by
  induction h with
  | leaf0 => exact ⟨trivial, trivial⟩
  | leafS => exact ⟨trivial, trivial⟩
  | un k d ds nid c ds1 n1 h1 h2 hc ih => exact ⟨linked_relink _ _ _ ih, trivial⟩
  | bin k d ds nid c1 ds1 n1 c2 ds2 n2 h1 h2 hc1 hc2 ih1 ih2 =>
    exact ⟨linked_relink _ _ _ ih1, linked_relink _ _ _ ih2⟩

theorem Grown.arity (h : Grown cfg k ds nid t ds' nid') : Arity cfg.ar t := by
  induction h with
  | leaf0 => exact ⟨⟨rfl, rfl⟩, trivial, trivial⟩
  | leafS => exact ⟨⟨rfl, rfl⟩, trivial, trivial⟩
  | un k d ds nid c ds1 n1 h1 h2 hc ih =>
    refine ⟨?_, arity_relink ih, trivial⟩
    rw [if_neg Bool.false_ne_true, if_pos h2]
    exact ⟨mt relink_eq_nil.1 hc.ne_nil, rfl⟩
  | bin k d ds nid c1 ds1 n1 c2 ds2 n2 h1 h2 hc1 hc2 ih1 ih2 =>
    refine ⟨?_, arity_relink ih1, arity_relink ih2⟩
    rw [if_neg Bool.false_ne_true, if_neg (by rw [h2]; decide), if_pos h2]
    exact ⟨mt relink_eq_nil.1 hc1.ne_nil, mt relink_eq_nil.1 hc2.ne_nil⟩

theorem Grown.ids_range (h : Grown cfg k ds nid t ds' nid') :
    t.ids = List.range' nid t.size ∧ nid' = nid + t.size := by
  induction h with
  | leaf0 => exact ⟨rfl, rfl⟩
  | leafS => exact ⟨rfl, rfl⟩
  | un k d ds nid c ds1 n1 h1 h2 hc ih => exact ids_range_mk (ids_range_relink ih) ⟨rfl, rfl⟩
  | bin k d ds nid c1 ds1 n1 c2 ds2 n2 h1 h2 hc1 hc2 ih1 ih2 =>
    exact ids_range_mk (ids_range_relink ih1) (ids_range_relink ih2)

theorem Grown.ids_bounds (h : Grown cfg k ds nid t ds' nid') :
    (∀ x ∈ t.ids, nid ≤ x ∧ x < nid') ∧ nid < nid' ∧ t.ids.Nodup := by
  rw [h.ids_range.1, h.ids_range.2]
  exact ⟨fun x hx => List.mem_range'_1.mp hx, Nat.lt_add_of_pos_right (size_pos h.ne_nil),
    List.nodup_range' 1⟩

theorem Grown.maxD_le (h : Grown cfg k ds nid t ds' nid') : t.maxD ≤ k := by
  induction h with
  | leaf0 => exact Nat.le_refl 0
  | leafS => exact Nat.zero_le _
  | un k d ds nid c ds1 n1 h1 h2 hc ih =>
    refine Nat.le_trans (maxD_mk_le ..) ?_
    rw [maxD_relink, Nat.add_comm]; exact Nat.succ_le_succ (Nat.max_le.mpr ⟨ih, Nat.zero_le _⟩)
  | bin k d ds nid c1 ds1 n1 c2 ds2 n2 h1 h2 hc1 hc2 ih1 ih2 =>
    refine Nat.le_trans (maxD_mk_le ..) ?_
    rw [maxD_relink, maxD_relink, Nat.add_comm]; exact Nat.succ_le_succ (Nat.max_le.mpr ⟨ih1, ih2⟩)

/-- the label discipline of GROW -/
theorem Grown.lbls (h : Grown cfg k ds nid t ds' nid') : ∀ p ∈ t.nodes,
    (p.2.isTerm = true → p.2.name < cfg.nTerminals ∧ p.2.arr = p.2.name + 1) ∧
    (p.2.isTerm = false → p.2.name ∈ cfg.funcs ∧ p.2.arr = 0) := by
  induction h with
  | leaf0 d ds nid h => exact List.forall_mem_singleton.2 ⟨fun _ => ⟨h, rfl⟩, nofun⟩
  | leafS k d ds nid h1 h2 =>
    exact List.forall_mem_singleton.2 ⟨fun _ => ⟨Nat.sub_lt_left_of_lt_add (Nat.le_of_not_lt h1) h2, rfl⟩, nofun⟩
  | un k d ds nid c ds1 n1 h1 h2 hc ih =>
    refine List.forall_mem_cons.2 ⟨⟨nofun, fun _ => ⟨getElem!_mem_of_lt h1, rfl⟩⟩, ?_⟩
    rw [nodes_relink]; exact List.forall_mem_append.2 ⟨ih, nofun⟩
  | bin k d ds nid c1 ds1 n1 c2 ds2 n2 h1 h2 hc1 hc2 ih1 ih2 =>
    refine List.forall_mem_cons.2 ⟨⟨nofun, fun _ => ⟨getElem!_mem_of_lt h1, rfl⟩⟩, ?_⟩
    rw [nodes_relink, nodes_relink]; exact List.forall_mem_append.2 ⟨ih1, ih2⟩

theorem Grown.consumes (h : Grown cfg k ds nid t ds' nid') : ds' <:+ ds ∧ ds.length = ds'.length + t.size := by
  induction h with
  | leaf0 d ds nid h => exact ⟨List.suffix_cons d ds, rfl⟩
  | leafS k d ds nid h1 h2 => exact ⟨List.suffix_cons d ds, rfl⟩
  | un k d ds nid c ds1 n1 h1 h2 hc ih =>
    refine ⟨ih.1.trans (List.suffix_cons d ds), ?_⟩
    show ds.length + 1 = ds1.length + (1 + (relink nid true c).size + 0)
    rw [size_relink, ih.2, Nat.add_zero, Nat.add_comm 1, Nat.add_assoc]
  | bin k d ds nid c1 ds1 n1 c2 ds2 n2 h1 h2 hc1 hc2 ih1 ih2 =>
    refine ⟨ih2.1.trans (ih1.1.trans (List.suffix_cons d ds)), ?_⟩
    show ds.length + 1 = ds2.length + (1 + (relink nid true c1).size + (relink nid false c2).size)
    rw [size_relink, size_relink, ih1.2, ih2.2]; omega

theorem Grown.counter (h : Grown cfg k ds nid t ds' nid') : nid' = nid + t.size := h.ids_range.2

end grown

/-- `drawsOk cfg pending ds`: the draw list `ds` answers, in order, every request GROW makes
    while growing the subtrees whose level budgets are stacked in `pending` (head first),
    each draw lying in the range the code requests *at that point*: `[0, nTerminals)` at
    budget 0, `[0, |funcs| + nTerminals)` otherwise; and the list does not run out.
    (What follows the last request is unconstrained.) -/
def drawsOk (cfg : GrowCfg) : List Nat → List Nat → Bool
  | [], _ => true
  | _ :: _, [] => false
  | 0 :: st, d :: ds => decide (d < cfg.nTerminals) && drawsOk cfg st ds
  | (k+1) :: st, d :: ds =>
      decide (d < cfg.funcs.length + cfg.nTerminals) &&
      drawsOk cfg
        (if d < cfg.funcs.length then (if cfg.ar cfg.funcs[d]! = 1 then k :: st else k :: k :: st)
         else st) ds

theorem grow_total_aux {cfg : GrowCfg} (hfun : ∀ op ∈ cfg.funcs, cfg.ar op = 1 ∨ cfg.ar op = 2) :
    ∀ (k : Nat) (st ds : List Nat) (nid : Nat), drawsOk cfg (k :: st) ds = true →
      ∃ t ds' nid', Grown cfg k ds nid t ds' nid' ∧ drawsOk cfg st ds' = true := by
  intro k
  induction k with
  | zero =>
    intro st ds nid h
    cases ds with
    | nil => cases h
    | cons d ds =>
      simp only [drawsOk, Bool.and_eq_true, decide_eq_true_eq] at h
      exact ⟨_, _, _, .leaf0 d ds nid h.1, h.2⟩
  | succ k ih =>
    intro st ds nid h
    cases ds with
    | nil => cases h
    | cons d ds =>
      simp only [drawsOk, Bool.and_eq_true, decide_eq_true_eq] at h
      obtain ⟨hr, h⟩ := h
      by_cases hd : d < cfg.funcs.length
      · rw [if_pos hd] at h
        by_cases har : cfg.ar cfg.funcs[d]! = 1
        · rw [if_pos har] at h
          obtain ⟨c, ds1, n1, hc, hok⟩ := ih st ds (nid + 1) h
          exact ⟨_, _, _, .un k d ds nid c ds1 n1 hd har hc, hok⟩
        · rw [if_neg har] at h
          have har2 := (hfun _ (getElem!_mem_of_lt hd)).resolve_left har
          obtain ⟨c1, ds1, n1, hc1, hok1⟩ := ih (k :: st) ds (nid + 1) h
          obtain ⟨c2, ds2, n2, hc2, hok2⟩ := ih st ds1 n1 hok1
          exact ⟨_, _, _, .bin k d ds nid c1 ds1 n1 c2 ds2 n2 hd har2 hc1 hc2, hok2⟩
      · rw [if_neg hd] at h
        exact ⟨_, _, _, .leafS k d ds nid hd hr, h⟩

theorem Grown.drawsOk {cfg : GrowCfg} {k : Nat} {ds : List Nat} {nid : Nat} {t : PNode}
    {ds' : List Nat} {nid' : Nat} (h : Grown cfg k ds nid t ds' nid') :
    ∀ st, PNode.drawsOk cfg st ds' = true → PNode.drawsOk cfg (k :: st) ds = true := by
  induction h with
  | leaf0 d ds nid h => intro st hst; simp [PNode.drawsOk, h, hst]
  | leafS k d ds nid h1 h2 => intro st hst; simp [PNode.drawsOk, h1, h2, hst]
  | un k d ds nid c ds1 n1 h1 h2 hc ih =>
    intro st hst
    simp only [PNode.drawsOk, Bool.and_eq_true, decide_eq_true_eq]
    refine ⟨Nat.lt_add_right _ h1, ?_⟩
    rw [if_pos h1, if_pos h2]; exact ih st hst
  | bin k d ds nid c1 ds1 n1 c2 ds2 n2 h1 h2 hc1 hc2 ih1 ih2 =>
    intro st hst
    simp only [PNode.drawsOk, Bool.and_eq_true, decide_eq_true_eq]
    refine ⟨Nat.lt_add_right _ h1, ?_⟩
    rw [if_pos h1, if_neg (by rw [h2]; decide)]; exact ih1 _ (ih2 st hst)

theorem shift_ids (k : Nat) (t : PNode) : (shift k t).ids = t.ids.map (· + k) := by
  induction t with
  | nil => rfl
  | mk i lb p f l r ihl ihr => simp [shift, PNode.ids, ihl, ihr]

theorem shift_eq_nil {k : Nat} {t : PNode} : shift k t = nil ↔ t = nil := by
  cases t <;> simp [shift]

theorem shift_size (k : Nat) (t : PNode) : (shift k t).size = t.size := by
  induction t with
  | nil => rfl
  | mk i lb p f l r ihl ihr => simp [shift, size, ihl, ihr]

theorem shift_maxD (k : Nat) (t : PNode) : (shift k t).maxD = t.maxD := by
  induction t with
  | nil => rfl
  | mk i lb p f l r ihl ihr =>
    show (mk (i + k) lb (p.map (· + k)) f (shift k l) (shift k r)).maxD = _
    rw [maxD_mk, maxD_mk, ihl, ihr]; simp only [shift_eq_nil]

theorem shift_lbl? (k : Nat) (t : PNode) : (shift k t).lbl? = t.lbl? := by
  cases t <;> rfl

theorem shift_pre (k : Nat) (t : PNode) : (shift k t).pre = t.pre.map (shift k) := by
  induction t with
  | nil => rfl
  | mk i lb p f l r ihl ihr => simp [shift, pre, ihl, ihr]

theorem shift_linked {k : Nat} {p : Option Nat} {f : Bool} {t : PNode} (h : Linked p f t) :
    Linked (p.map (· + k)) f (shift k t) := by
  induction t generalizing p f with
  | nil => trivial
  | mk i lb par fl l r ihl ihr =>
    obtain ⟨h1, h2, h3, h4⟩ := h
    exact ⟨by rw [h1], h2, ihl h3, ihr h4⟩

theorem shift_kidsLinked {k : Nat} {t : PNode} (h : KidsLinked t) : KidsLinked (shift k t) := by
  cases t with
  | nil => trivial
  | mk i lb par fl l r => exact ⟨shift_linked h.1, shift_linked h.2⟩

theorem shift_arity {ar : Nat → Nat} {k : Nat} {t : PNode} (h : Arity ar t) :
    Arity ar (shift k t) := by
  induction t with
  | nil => trivial
  | mk i lb par fl l r ihl ihr =>
    exact arity_mk_congr h shift_eq_nil shift_eq_nil (ihl h.2.1) (ihr h.2.2)

theorem shift_nodup {k : Nat} {t : PNode} (h : t.ids.Nodup) : (shift k t).ids.Nodup := by
  rw [shift_ids]
  exact List.Pairwise.map _ (fun a b hab e => hab (Nat.add_right_cancel e)) h

def exCfg : GrowCfg := ⟨[5, 7], fun op => if op = 5 then 1 else 2, 3⟩

/-- a function set containing a ternary operator (code 9) -/
def exCfgBad : GrowCfg := ⟨[9], fun _ => 3, 1⟩

/-- `7(5(T2), T1)` on identities 0‥3, as GROW builds it -/
def exTree : PNode :=
  mk 0 ⟨false, 7, 0⟩ none true
    (mk 1 ⟨false, 5, 0⟩ (some 0) true (mk 2 ⟨true, 2, 3⟩ (some 1) true nil nil) nil)
    (mk 3 ⟨true, 1, 2⟩ (some 0) false nil nil)

end PNode
end Opy
