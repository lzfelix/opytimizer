import OpyVerif.Model.TreeOps
/-!
Helper lemmas for C09 (reproduction): `argmaxFirst` is the first index of the maximum;
`reproTrace` lists the positions `reproduction` overwrites, `fitTrace` the same as a function of
the working fitness list alone, and `FirstMaxOutside` says which position a round hits.
-/
namespace Opy
namespace PNode

/-- `w` is the first position holding the maximum of `fit` over the positions outside `done` -/
def FirstMaxOutside (fit : List Int) (done : List Nat) (w : Nat) : Prop :=
  w ∉ done ∧ ∃ hw : w < fit.length,
    (∀ i (hi : i < fit.length), i ∉ done → fit[i] ≤ fit[w]) ∧
    (∀ i (hi : i < w), i ∉ done → fit[i] < fit[w])

theorem argmaxFirst_cons {x : Int} {xs : List Int} {v : Nat} (ev : argmaxFirst xs = v)
    (hv : v < xs.length) : argmaxFirst (x :: xs) = if x < xs[v]'hv then v + 1 else 0 := by
  subst ev
  show (match xs[argmaxFirst xs]? with
    | some y => if x < y then argmaxFirst xs + 1 else 0
    | none => 0) = _
  rw [List.getElem?_eq_getElem hv]

/-- the arg-max is a variable `w`, so that the case analysis can substitute it -/
theorem argmaxFirst_eq (l : List Int) : l ≠ [] → ∀ w, argmaxFirst l = w →
    ∃ hw : w < l.length, (∀ x ∈ l, x ≤ l[w]'hw) ∧
      (∀ j (hj : j < w), l[j]'(Nat.lt_trans hj hw) < l[w]'hw) := by
  induction l with
  | nil => exact fun h => absurd rfl h
  | cons x xs ih =>
    intro _ w e
    cases xs with
    | nil =>
      obtain rfl : 0 = w := e
      exact ⟨Nat.zero_lt_one, fun z hz => Int.le_of_eq (List.mem_singleton.1 hz),
        fun j hj => absurd hj (Nat.not_lt_zero _)⟩
    | cons y ys =>
      generalize ev : argmaxFirst (y :: ys) = v
      obtain ⟨hv, hmax, hfirst⟩ := ih (List.cons_ne_nil _ _) v ev
      rw [argmaxFirst_cons ev hv] at e
      by_cases hx : x < (y :: ys)[v]'hv
      · rw [if_pos hx] at e
        subst e
        refine ⟨Nat.succ_lt_succ hv, fun z hz => ?_, fun j hj => ?_⟩
        · rcases List.mem_cons.1 hz with rfl | hz
          · exact Int.le_of_lt hx
          · exact hmax z hz
        · cases j with
          | zero => exact hx
          | succ j => exact hfirst j (Nat.lt_of_succ_lt_succ hj)
      · rw [if_neg hx] at e
        subst e
        refine ⟨Nat.zero_lt_succ _, fun z hz => ?_, fun j hj => absurd hj (Nat.not_lt_zero _)⟩
        rcases List.mem_cons.1 hz with rfl | hz
        · exact Int.le_refl _
        · exact Int.le_trans (hmax z hz) (Int.not_lt.1 hx)

section repro
variable {α β : Type} (cpT : α → α) (cpA : β → β)

theorem reproStep_eq_of_lt {trees : List α} {agents : List β} {fit : List Int} {s : Nat}
    (hs : s < trees.length) (hs' : s < agents.length) :
    reproStep cpT cpA (trees, agents, fit) s =
      (trees.set (argmaxFirst fit) (cpT trees[s]), agents.set (argmaxFirst fit) (cpA agents[s]),
        fit.set (argmaxFirst fit) 0) := by
  simp [reproStep, hs, hs']

theorem reproStep_eq_of_not {trees : List α} {agents : List β} {fit : List Int} {s : Nat}
    (hs : ¬ (s < trees.length ∧ s < agents.length)) :
    reproStep cpT cpA (trees, agents, fit) s = (trees, agents, fit) := by
  unfold reproStep
  simp only
  split
  · next t a ht ha =>
    exact absurd ⟨(List.getElem?_eq_some_iff.1 ht).1, (List.getElem?_eq_some_iff.1 ha).1⟩ hs
  · rfl

theorem reproduction_inv {P : List α × List β × List Int → Prop}
    (hstep : ∀ st s, P st → P (reproStep cpT cpA st s))
    (trees : List α) (agents : List β) (fit : List Int) (selected : List Nat)
    (h0 : P (trees, agents, fit)) : P (reproduction cpT cpA trees agents fit selected) :=
  List.foldlRecOn selected (reproStep cpT cpA) h0 (fun st h s _ => hstep st s h)

/-- the positions overwritten by `reproduction`, in order (a round whose selected index is
    out of range overwrites nothing, as in `reproStep`) -/
def reproTrace (st : List α × List β × List Int) : List Nat → List Nat
  | [] => []
  | s :: ss =>
    match st.1[s]?, st.2.1[s]? with
    | some _, some _ => argmaxFirst st.2.2 :: reproTrace (reproStep cpT cpA st s) ss
    | _, _ => reproTrace st ss

/-- the trace as a function of the working fitness list alone -/
def fitTrace : List Int → Nat → List Nat
  | _, 0 => []
  | f, n+1 => argmaxFirst f :: fitTrace (f.set (argmaxFirst f) 0) n

theorem reproTrace_cons_of_lt {trees : List α} {agents : List β} {fit : List Int} {s : Nat}
    (ss : List Nat) (hs : s < trees.length) (hs' : s < agents.length) :
    reproTrace cpT cpA (trees, agents, fit) (s :: ss) =
      argmaxFirst fit :: reproTrace cpT cpA (reproStep cpT cpA (trees, agents, fit) s) ss := by
  rw [reproTrace]
  simp only [List.getElem?_eq_getElem hs, List.getElem?_eq_getElem hs']

theorem reproTrace_cons_of_not {trees : List α} {agents : List β} {fit : List Int} {s : Nat}
    (ss : List Nat) (hs : ¬ (s < trees.length ∧ s < agents.length)) :
    reproTrace cpT cpA (trees, agents, fit) (s :: ss) = reproTrace cpT cpA (trees, agents, fit) ss := by
  rw [reproTrace]
  split
  · next t a ht ha =>
    exact absurd ⟨(List.getElem?_eq_some_iff.1 ht).1, (List.getElem?_eq_some_iff.1 ha).1⟩ hs
  · rfl

theorem reproTrace_eq_fitTrace (sel : List Nat) (trees : List α) (agents : List β) (fit : List Int)
    (hta : trees.length = agents.length) (hsel : ∀ s ∈ sel, s < trees.length) :
    reproTrace cpT cpA (trees, agents, fit) sel = fitTrace fit sel.length := by
  induction sel generalizing trees agents fit with
  | nil => rfl
  | cons s ss ih =>
    have hsel := List.forall_mem_cons.1 hsel
    rw [reproTrace_cons_of_lt cpT cpA ss hsel.1 (hta ▸ hsel.1), reproStep_eq_of_lt cpT cpA hsel.1 (hta ▸ hsel.1),
      ih _ _ _ (by rw [List.length_set, List.length_set]; exact hta)
        (fun s' hs' => Nat.lt_of_lt_of_eq (hsel.2 s' hs') List.length_set.symm)]
    rfl

end repro

theorem fitTrace_length (f : List Int) (n : Nat) : (fitTrace f n).length = n := by
  induction n generalizing f with
  | zero => rfl
  | succ n ih => simp [fitTrace, ih]

theorem firstMaxOutside_set {f : List Int} {w v : Nat} {done : List Nat}
    (h : FirstMaxOutside (f.set w 0) done v) (hvw : v ≠ w) : FirstMaxOutside f (w :: done) v := by
  obtain ⟨hvnot, hv, hvmax, hvfirst⟩ := h
  have hv' : v < f.length := by simpa using hv
  refine ⟨?_, hv', ?_, ?_⟩
  · simp only [List.mem_cons, not_or]; exact ⟨hvw, hvnot⟩
  · intro i hi hnot
    simp only [List.mem_cons, not_or] at hnot
    have := hvmax i (by simpa using hi) hnot.2
    rw [List.getElem_set_ne (Ne.symm hnot.1), List.getElem_set_ne (Ne.symm hvw)] at this
    exact this
  · intro i hi hnot
    simp only [List.mem_cons, not_or] at hnot
    have := hvfirst i hi hnot.2
    rw [List.getElem_set_ne (Ne.symm hnot.1), List.getElem_set_ne (Ne.symm hvw)] at this
    exact this

theorem fitTrace_spec (n : Nat) (f : List Int) (hn : n ≤ f.countP (fun x => decide (0 < x))) :
    (fitTrace f n).Nodup ∧ ∀ j w, (fitTrace f n)[j]? = some w →
      FirstMaxOutside f ((fitTrace f n).take j) w ∧ ∃ hw : w < f.length, 0 < f[w]'hw := by
  induction n generalizing f with
  | zero => exact ⟨List.nodup_nil, fun j w h => nomatch h⟩
  | succ n ih =>
    obtain ⟨x, hxf, hxpos⟩ := List.countP_pos_iff.1 (Nat.lt_of_lt_of_le (Nat.succ_pos n) hn)
    have hxpos := of_decide_eq_true hxpos
    obtain ⟨hw, hmax, hfirst⟩ := argmaxFirst_eq f (List.ne_nil_of_mem hxf) _ rfl
    have hpos : 0 < f[argmaxFirst f]'hw := Int.lt_of_lt_of_le hxpos (hmax x hxf)
    have hn' : n ≤ (f.set (argmaxFirst f) 0).countP (fun x => decide (0 < x)) := by
      rw [List.countP_set hw, if_pos (decide_eq_true hpos), if_neg (by decide), Nat.add_zero]
      exact Nat.le_sub_of_add_le hn
    obtain ⟨hnd, hP⟩ := ih (f.set (argmaxFirst f) 0) hn'
    -- a later round never hits the first position again: its entry is the marker 0 by then
    have hne : ∀ (j w : Nat), (fitTrace (f.set (argmaxFirst f) 0) n)[j]? = some w → w ≠ argmaxFirst f := by
      intro j w hj e
      obtain ⟨_, hv, hvpos⟩ := hP j w hj
      subst e
      rw [List.getElem_set_self] at hvpos
      exact absurd hvpos (Int.lt_irrefl 0)
    refine ⟨List.nodup_cons.2 ⟨fun hmem => ?_, hnd⟩, fun j w hj => ?_⟩
    · obtain ⟨j, hj⟩ := List.getElem?_of_mem hmem
      exact hne j _ hj rfl
    · cases j with
      | zero =>
        cases hj
        exact ⟨⟨List.not_mem_nil, hw, fun i hi _ => hmax _ (List.getElem_mem hi),
          fun i hi _ => hfirst i hi⟩, hw, hpos⟩
      | succ j =>
        obtain ⟨hF, hv, hvpos⟩ := hP j w hj
        have hwa := hne j w hj
        rw [List.getElem_set_ne (Ne.symm hwa)] at hvpos
        exact ⟨firstMaxOutside_set hF hwa, List.length_set ▸ hv, hvpos⟩

theorem reproTrace_spec {α β : Type} (cpT : α → α) (cpA : β → β) (trees : List α)
    (agents : List β) (fit : List Int) (selected : List Nat) (hta : trees.length = agents.length)
    (hsel : ∀ s ∈ selected, s < trees.length)
    (hn : selected.length ≤ fit.countP (fun x => decide (0 < x))) :
    (reproTrace cpT cpA (trees, agents, fit) selected).length = selected.length ∧
    (reproTrace cpT cpA (trees, agents, fit) selected).Nodup ∧
    ∀ j (hj : j < (reproTrace cpT cpA (trees, agents, fit) selected).length),
      FirstMaxOutside fit ((reproTrace cpT cpA (trees, agents, fit) selected).take j)
        (reproTrace cpT cpA (trees, agents, fit) selected)[j] := by
  rw [reproTrace_eq_fitTrace cpT cpA selected trees agents fit hta hsel]
  obtain ⟨hnd, hP⟩ := fitTrace_spec selected.length fit hn
  exact ⟨fitTrace_length _ _, hnd, fun j hj => (hP j _ (List.getElem?_eq_getElem hj)).1⟩

theorem foldl_set_zero_getElem? (tr : List Nat) (f : List Int) (i : Nat) :
    (tr.foldl (fun g w => g.set w 0) f)[i]? = if i ∈ tr then (f[i]?).map (fun _ => 0) else f[i]? := by
  induction tr generalizing f with
  | nil => exact (if_neg List.not_mem_nil).symm
  | cons w tr ih =>
    rw [List.foldl_cons, ih (f.set w 0)]
    by_cases hwi : w = i
    · -- position `w` holds the marker from now on, whether or not it is hit again
      subst hwi
      rw [List.getElem?_set_self', if_pos List.mem_cons_self]
      cases f[w]? <;> exact ite_self _
    · rw [List.getElem?_set_ne hwi]
      simp only [List.mem_cons, Ne.symm hwi, false_or]

theorem reproduction_fit_foldl {α β : Type} (cpT : α → α) (cpA : β → β) (sel : List Nat)
    (st : List α × List β × List Int) :
    (sel.foldl (reproStep cpT cpA) st).2.2 = (reproTrace cpT cpA st sel).foldl (fun g w => g.set w 0) st.2.2 := by
  induction sel generalizing st with
  | nil => rfl
  | cons s ss ih =>
    obtain ⟨trees, agents, fit⟩ := st
    rw [List.foldl_cons, ih]
    by_cases hs : s < trees.length ∧ s < agents.length
    · rw [reproTrace_cons_of_lt cpT cpA ss hs.1 hs.2, List.foldl_cons,
        reproStep_eq_of_lt cpT cpA hs.1 hs.2]
    · rw [reproStep_eq_of_not cpT cpA hs, reproTrace_cons_of_not cpT cpA ss hs]

end PNode
end Opy
