import OpyVerif.Proofs.RealElem
import OpyVerif.Proofs.Lemmas.ListSum
/-!
Helper lemmas for the real-number properties (C13, C15, C16, C18real): the Model formulas of
`Model/Num.lean` instantiated at `ℝ` rewritten as ordinary real expressions, and the small
order/real-analysis facts the property theorems are assembled from.  (`levySigma` and `levyStep` at `ℝ`:
`levySigma_eq`, `levyStep_eq` in `Proofs/C18real.lean`.)
Defines: `successCount`, `successLoop` (C15), `weightedG` (C16).
The `_real` lemmas of `ihsPAR`, `uniformAffine`, `faAlpha`, `wcaDmax` do not keep the order of the source formula: they put it into
the interpolation shape `(ub - lb) * t + lb` or the decay shape `x * q` for which the `lerp_*` / `decay_*` lemmas are stated.
-/
namespace Opy

theorem norm_real (row : List ℝ) : norm row = Real.sqrt ((row.map fun v => v * v).sum) := by
  unfold norm
  rw [sumL_eq_sum]
  simp only [elem_sqrt, elem_mul]

theorem spanRow_real (lb ub : ℝ) (row : List ℝ) :
    spanRow lb ub row = (ub - lb) * (norm row / Real.sqrt (row.length : ℝ)) + lb := by
  unfold spanRow
  simp only [elem_add, elem_sub, elem_mul, elem_div, elem_sqrt, elem_ofNat']

theorem aiwpsoW_real (wmin wmax : ℝ) (p n : ℕ) :
    aiwpsoW wmin wmax p n = (wmax - wmin) * ((p : ℝ) / (n : ℝ)) + wmin := by
  unfold aiwpsoW
  simp only [elem_add, elem_sub, elem_mul, elem_div, elem_ofNat']

theorem ihsPAR_real (pmin pmax : ℝ) (N t : ℕ) :
    ihsPAR pmin pmax N t = (pmax - pmin) * ((t : ℝ) / (N : ℝ)) + pmin := by
  unfold ihsPAR
  simp only [elem_add, elem_sub, elem_mul, elem_div, elem_ofNat']
  ring

theorem ihsBw_real (bmin bmax : ℝ) (N t : ℕ) :
    ihsBw bmin bmax N t = bmax * Real.exp (Real.log (bmin / bmax) / (N : ℝ) * (t : ℝ)) := by
  unfold ihsBw
  simp only [elem_mul, elem_div, elem_exp, elem_log, elem_ofNat']

theorem saT_real (T beta : ℝ) : saT T beta = T * beta := by
  unfold saT
  simp only [elem_mul]

/-- the constant `10e-4 / 0.9` of the source is `1/900` -/
theorem faConst_eq :
    ((OfScientific.ofScientific 10 true 4 : ℝ) / (OfScientific.ofScientific 9 true 1 : ℝ)) = 1 / 900 := by
  norm_num

theorem faDelta_real (N : ℕ) : (faDelta N : ℝ) = 1 - ((1 : ℝ) / 900) ^ ((1 : ℝ) / (N : ℝ)) := by
  unfold faDelta
  simp only [elem_sub, elem_div, elem_pow, elem_ofNat', elem_ofSci, Nat.cast_one]
  rw [faConst_eq]

theorem faAlpha_real (alpha : ℝ) (N : ℕ) :
    faAlpha alpha N = alpha * ((1 : ℝ) / 900) ^ ((1 : ℝ) / (N : ℝ)) := by
  unfold faAlpha
  simp only [elem_sub, elem_mul, elem_ofNat', Nat.cast_one]
  rw [faDelta_real]
  ring

theorem wcaDmax_real (d : ℝ) (N : ℕ) : wcaDmax d N = d * (1 - 1 / (N : ℝ)) := by
  unfold wcaDmax
  simp only [elem_sub, elem_div, elem_ofNat']
  ring

theorem uniformAffine_real (low high u : ℝ) : uniformAffine low high u = (high - low) * u + low := by
  unfold uniformAffine
  simp only [elem_add, elem_sub, elem_mul]
  exact add_comm _ _

theorem normalAffine_real (mu sd z : ℝ) : normalAffine mu sd z = mu + sd * z := by
  unfold normalAffine
  simp only [elem_add, elem_mul]

theorem sumsq_nonneg (row : List ℝ) : 0 ≤ (row.map fun v => v * v).sum :=
  sum_map_nonneg _ row fun v _ => mul_self_nonneg v

theorem sumsq_le_length (row : List ℝ) (h : ∀ v ∈ row, 0 ≤ v ∧ v ≤ 1) :
    (row.map fun v => v * v).sum ≤ (row.length : ℝ) :=
  (sum_map_le_card_mul _ 1 row fun v hv => mul_le_one₀ (h v hv).2 (h v hv).1 (h v hv).2).trans_eq
    (mul_one _)

theorem sumsq_zeros (row : List ℝ) (h : ∀ v ∈ row, v = 0) : (row.map fun v => v * v).sum = 0 :=
  sum_map_eq_zero _ row fun v hv => by rw [h v hv, mul_zero]

theorem sumsq_ones (row : List ℝ) (h : ∀ v ∈ row, v = 1) :
    (row.map fun v => v * v).sum = (row.length : ℝ) :=
  (sum_map_eq_card_mul _ 1 row fun v hv => by rw [h v hv, mul_one]).trans (mul_one _)

theorem sqrt_length_pos (row : List ℝ) (hne : row ≠ []) : 0 < Real.sqrt (row.length : ℝ) :=
  Real.sqrt_pos.mpr (Nat.cast_pos.mpr (List.length_pos_of_ne_nil hne))

/-- Affine interpolation `(ub - lb) * t + lb` is the shape of `spanRow`, `aiwpsoW`, `ihsPAR` and
    `uniformAffine`: the `lerp_*` lemmas serve all four. -/
theorem lerp_mono (lb ub : ℝ) {t t' : ℝ} (hb : lb ≤ ub) (h : t ≤ t') :
    (ub - lb) * t + lb ≤ (ub - lb) * t' + lb :=
  add_le_add_left (mul_le_mul_of_nonneg_left h (sub_nonneg.mpr hb)) lb

theorem lerp_lt (lb ub : ℝ) {t t' : ℝ} (hb : lb < ub) (h : t < t') :
    (ub - lb) * t + lb < (ub - lb) * t' + lb :=
  add_lt_add_left (mul_lt_mul_of_pos_left h (sub_pos.mpr hb)) lb

theorem lerp_zero (lb ub : ℝ) : (ub - lb) * 0 + lb = lb := by ring

theorem lerp_one (lb ub : ℝ) : (ub - lb) * 1 + lb = ub := by ring

theorem lerp_mem (lb ub t : ℝ) (hb : lb ≤ ub) (h0 : 0 ≤ t) (h1 : t ≤ 1) :
    lb ≤ (ub - lb) * t + lb ∧ (ub - lb) * t + lb ≤ ub := by
  have a := lerp_mono lb ub hb h0
  have b := lerp_mono lb ub hb h1
  rw [lerp_zero] at a
  rw [lerp_one] at b
  exact ⟨a, b⟩

/-- Multiplicative decay `x ↦ x * q`, `0 ≤ q ≤ 1`, is the shape of `saT`, `faAlpha` and `wcaDmax`
    (`decay_step`: one step; `decay_iterate`: the closed form `x0 * q ^ k`; for any shrinking `f`, not only `· * q`:
    `iterate_shrink`, `iterate_shrink_antitone` below). -/
theorem decay_step {q x : ℝ} (hq0 : 0 ≤ q) (hq1 : q ≤ 1) (hx : 0 ≤ x) : 0 ≤ x * q ∧ x * q ≤ x :=
  ⟨mul_nonneg hx hq0, mul_le_of_le_one_right hx hq1⟩

theorem decay_iterate (f : ℝ → ℝ) (q : ℝ) (hf : ∀ x, f x = x * q) (x0 : ℝ) (k : ℕ) :
    f^[k] x0 = x0 * q ^ k := by
  rw [funext hf, mul_right_iterate_apply]

section generic
variable {α : Type} [Elem α]

theorem span_eq_zipWith (lbs ubs : List α) (rows : List (List α)) :
    span lbs ubs rows = List.zipWith (fun lu r => spanRow lu.1 lu.2 r) (lbs.zip ubs) rows := by
  fun_induction span lbs ubs rows with
  | case1 l lbs u ubs r rows ih => rw [List.zip_cons_cons, List.zipWith_cons_cons, ih]
  | case2 lbs ubs rows h =>
    cases lbs <;> cases ubs <;> cases rows <;> first | rfl | exact (h _ _ _ _ _ _ rfl rfl rfl).elim

theorem span_length_min (lbs ubs : List α) (rows : List (List α)) :
    (span lbs ubs rows).length = min lbs.length (min ubs.length rows.length) := by
  rw [span_eq_zipWith, List.length_zipWith, List.length_zip, Nat.min_assoc]

end generic

theorem iterate_shrink (f : ℝ → ℝ) (hf : ∀ x, 0 ≤ x → 0 ≤ f x ∧ f x ≤ x) (x0 : ℝ) (h0 : 0 ≤ x0)
    (k : ℕ) : 0 ≤ f^[k] x0 ∧ f^[k] x0 ≤ x0 ∧ f^[k + 1] x0 ≤ f^[k] x0 := by
  have key : ∀ k, 0 ≤ f^[k] x0 ∧ f^[k] x0 ≤ x0 := fun k => by
    induction k with
    | zero => exact ⟨h0, le_rfl⟩
    | succ k ih =>
      rw [Function.iterate_succ_apply']
      exact ⟨(hf _ ih.1).1, (hf _ ih.1).2.trans ih.2⟩
  refine ⟨(key k).1, (key k).2, ?_⟩
  rw [Function.iterate_succ_apply']
  exact (hf _ (key k).1).2

theorem iterate_shrink_antitone (f : ℝ → ℝ) (hf : ∀ x, 0 ≤ x → 0 ≤ f x ∧ f x ≤ x) (x0 : ℝ)
    (h0 : 0 ≤ x0) : Antitone fun k => f^[k] x0 :=
  antitone_nat_of_succ_le fun k => (iterate_shrink f hf x0 h0 k).2.2

theorem faFactor_mem (N : ℕ) (hN : 0 < N) :
    0 < ((1 : ℝ) / 900) ^ ((1 : ℝ) / (N : ℝ)) ∧ ((1 : ℝ) / 900) ^ ((1 : ℝ) / (N : ℝ)) < 1 :=
  ⟨Real.rpow_pos_of_pos (by norm_num) _,
    Real.rpow_lt_one (by norm_num) (by norm_num) (one_div_pos.mpr (Nat.cast_pos.mpr hN))⟩

theorem wcaFactor_mem (N : ℕ) (hN : 1 ≤ N) : 0 ≤ 1 - 1 / (N : ℝ) ∧ 1 - 1 / (N : ℝ) ≤ 1 := by
  rw [one_div]
  exact ⟨sub_nonneg.mpr (inv_le_one_of_one_le₀ (Nat.one_le_cast.mpr hN)),
    sub_le_self _ (inv_nonneg.mpr (Nat.cast_nonneg N))⟩

/-- `p = #{i | new_i < old_i}` as a filter over the zipped lists -/
def successCount {β : Type} [LT β] [DecidableRel (α := β) (· < ·)] (new old : List β) : Nat :=
  ((List.zip new old).filter fun q => decide (q.1 < q.2)).length

/-- the same count as the source writes it: `p = 0; for (n, o) in zip(new, old): if n < o: p += 1` -/
def successLoop {β : Type} [LT β] [DecidableRel (α := β) (· < ·)] (new old : List β) : Nat :=
  (List.zip new old).foldl (fun p q => if q.1 < q.2 then p + 1 else p) 0

theorem successLoop_eq_count {β : Type} [LT β] [DecidableRel (α := β) (· < ·)] (new old : List β) :
    successLoop new old = successCount new old := by
  unfold successLoop successCount
  generalize List.zip new old = l
  suffices ∀ a, l.foldl (fun p q => if q.1 < q.2 then p + 1 else p) a
      = a + (l.filter fun q => decide (q.1 < q.2)).length by simpa using this 0
  induction l with
  | nil => simp
  | cons q l ih =>
    intro a
    by_cases hq : q.1 < q.2 <;> simp [hq, ih, Nat.add_assoc, Nat.add_comm 1]

theorem successCount_le_length {β : Type} [LT β] [DecidableRel (α := β) (· < ·)] (new old : List β) :
    successCount new old ≤ min new.length old.length := by
  unfold successCount
  calc ((List.zip new old).filter fun q => decide (q.1 < q.2)).length
      ≤ (List.zip new old).length := List.length_filter_le _ _
    _ = min new.length old.length := List.length_zip

/-- `z = 0; for (w, v) in zip(ws, vals): z += w * v` over any semiring -/
def weightedG {R : Type} [Semiring R] (ws vals : List R) : R :=
  (List.zip ws vals).foldl (fun z p => z + p.1 * p.2) 0

end Opy
