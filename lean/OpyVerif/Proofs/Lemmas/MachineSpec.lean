import OpyVerif.Model.Machine
/-!
The characterising lemmas of `Model/Machine.lean`: what the sweep rule (`sweepAgent`, `takes`, `bestOf`)
computes, one inversion lemma per event (the successor state and every guard it passed),
and how `run` splits.  Proofs about the machine go through these; none unfolds `apply`.
The guards come back as the Booleans `apply` tests; their reading as propositions is `change_sound` (MachineInv) for
`changeOkB` and `consistent_truth_fit` for `consistentB`; `coveredB` and `clipAg` are unfolded where they are used.
Defines: `Truth`, `Ev.isSweep`, `Ev.isSwap`, `Ev.isDump`.
-/
namespace Opy

def Truth (evals : List (Pos × Int)) (a : Ag) : Prop := (a.tpos, a.fit) ∈ evals

theorem truthB_iff (ev : List (Pos × Int)) (a : Ag) : truthB ev a = true ↔ Truth ev a := by
  simp [truthB, Truth]

theorem Truth.mono {ev : List (Pos × Int)} {a : Ag} (x : Pos × Int) (h : Truth ev a) :
    Truth (ev ++ [x]) a :=
  List.mem_append.2 (Or.inl h)

def Ev.isSweep : Ev → Bool
  | .sweep _ _ _ => true
  | _ => false

def Ev.isSwap : Ev → Bool
  | .trialSwap _ _ _ => true
  | _ => false

def Ev.isDump : Ev → Bool
  | .dump => true
  | _ => false

theorem sweepAgent_cases (cfg : Cfg) (a : Ag) (v : Int) :
    (sweepAgent cfg a v = { a with fit := v, tpos := a.pos } ∧ (cfg.swarm = true → v < a.fit)) ∨
    (cfg.swarm = true ∧ sweepAgent cfg a v = a ∧ a.fit ≤ v) := by
  unfold sweepAgent
  by_cases hs : cfg.swarm = true
  · by_cases hv : v < a.fit
    · left; simp [hs, hv]
    · right; simp [hs, hv]; omega
  · left; simp [hs]

theorem sweepAgent_nonswarm (cfg : Cfg) (a : Ag) (v : Int) (hs : cfg.swarm = false) :
    sweepAgent cfg a v = { a with fit := v, tpos := a.pos } := by
  simp [sweepAgent, hs]

theorem sweepAgent_pos (cfg : Cfg) (a : Ag) (v : Int) : (sweepAgent cfg a v).pos = a.pos := by
  rcases sweepAgent_cases cfg a v with ⟨h, _⟩ | ⟨_, h, _⟩ <;> rw [h]

theorem sweepAgent_ref (cfg : Cfg) (a : Ag) (v : Int) : (sweepAgent cfg a v).ref = a.ref := by
  rcases sweepAgent_cases cfg a v with ⟨h, _⟩ | ⟨_, h, _⟩ <;> rw [h]

theorem sweepAgent_fit_le_val (cfg : Cfg) (a : Ag) (v : Int) : (sweepAgent cfg a v).fit ≤ v := by
  rcases sweepAgent_cases cfg a v with ⟨h, _⟩ | ⟨_, h, h'⟩ <;> rw [h]
  · exact Int.le_refl _
  · exact h'

theorem sweepAgent_fit_le (cfg : Cfg) (a : Ag) (v : Int) (hs : cfg.swarm = true) :
    (sweepAgent cfg a v).fit ≤ a.fit := by
  rcases sweepAgent_cases cfg a v with ⟨h, h'⟩ | ⟨_, h, _⟩ <;> rw [h]
  · exact Int.le_of_lt (h' hs)
  · exact Int.le_refl _

theorem sweepAgent_truth (cfg : Cfg) (ev : List (Pos × Int)) (a : Ag) (v : Int) :
    Truth (ev ++ [(a.pos, v)]) (sweepAgent cfg a v) ∨ (sweepAgent cfg a v = a ∧ a.fit ≤ v) := by
  rcases sweepAgent_cases cfg a v with ⟨h, _⟩ | ⟨_, h, h'⟩ <;> rw [h]
  · left; simp [Truth]
  · exact Or.inr ⟨rfl, h'⟩

theorem sweepAgent_truth_of_truth (cfg : Cfg) (ev : List (Pos × Int)) (a : Ag) (v : Int)
    (hT : Truth ev a) : Truth (ev ++ [(a.pos, v)]) (sweepAgent cfg a v) := by
  rcases sweepAgent_truth cfg ev a v with h | ⟨h, _⟩
  · exact h
  · rw [h]; exact Truth.mono _ hT

theorem consistent_truth_fit (ev : List (Pos × Int)) (a : Ag) (v : Int)
    (hc : consistentB ev a.pos v = true) (ht : a.tpos = a.pos) (hT : Truth ev a) : a.fit = v := by
  simp only [consistentB, List.all_eq_true, Bool.or_eq_true, Bool.not_eq_true',
    beq_iff_eq, beq_eq_false_iff_ne] at hc
  rcases hc (a.tpos, a.fit) hT with h | h
  · exact absurd ht h
  · exact h

theorem sweepAgent_fit_le_of_truth (cfg : Cfg) (ev : List (Pos × Int)) (a : Ag) (v : Int)
    (hc : consistentB ev a.pos v = true) (hsw : cfg.swarm = true ∨ a.tpos = a.pos)
    (hT : Truth ev a) : (sweepAgent cfg a v).fit ≤ a.fit := by
  by_cases hs : cfg.swarm = true
  · exact sweepAgent_fit_le cfg a v hs
  · rw [sweepAgent_nonswarm cfg a v (by simpa using hs),
      consistent_truth_fit ev a v hc (hsw.resolve_left hs) hT]
    exact Int.le_refl _

theorem takes_iff (best a' : Ag) (tie : Bool) :
    takes best a' tie = true ↔ a'.fit < best.fit ∨ (tie = true ∧ a'.fit = best.fit) := by
  simp [takes]

theorem rule_best (best a' : Ag) (tie : Bool) (r : Nat) :
    (if takes best a' tie then bestOf a' r else best).fit ≤ best.fit ∧
    (if takes best a' tie then bestOf a' r else best).fit ≤ a'.fit := by
  split
  · rename_i h
    refine ⟨?_, Int.le_refl _⟩
    rcases (takes_iff _ _ _).1 h with h | ⟨_, h⟩
    · exact Int.le_of_lt h
    · exact Int.le_of_eq h
  · rename_i h
    exact ⟨Int.le_refl _, Int.not_lt.1 fun hlt => h ((takes_iff _ _ _).2 (Or.inl hlt))⟩

theorem hook_spec {cfg : Cfg} {s s' : St} {pop' : List Ag}
    (h : apply cfg s (.hook pop') = some s') :
    s' = { s with pop := pop', cursor := 0, tp := true, hooks := s.hooks + 1, sinceHook := 0,
                  truthful := s.truthful && pop'.all (truthB s.evals) } ∧
    changeOkB s.best s.evals s.evals s.pop pop' = true ∧
    pop'.length = s.pop.length ∧ s.cursor = s.pop.length := by
  simp only [apply, Option.ite_none_right_eq_some, Option.some.injEq, Bool.and_eq_true, beq_iff_eq] at h
  obtain ⟨⟨⟨hok, hlen⟩, hcur⟩, rfl⟩ := h
  exact ⟨rfl, hok, hlen, hcur⟩

theorem update_spec {cfg : Cfg} {s s' : St} {pop' : List Ag}
    (h : apply cfg s (.update pop') = some s') :
    s' = { s with pop := pop', truthful := s.truthful && pop'.all (truthB s.evals) } ∧
    changeOkB s.best s.evals s.evals s.pop pop' = true ∧
    pop'.length = s.pop.length ∧ s.cursor = s.pop.length := by
  simp only [apply, Option.ite_none_right_eq_some, Option.some.injEq, Bool.and_eq_true, beq_iff_eq] at h
  obtain ⟨⟨⟨hok, hlen⟩, hcur⟩, rfl⟩ := h
  exact ⟨rfl, hok, hlen, hcur⟩

theorem clipAll_spec {cfg : Cfg} {s s' : St} (h : apply cfg s .clipAll = some s') :
    s' = { s with pop := s.pop.map (clipAg cfg),
                  truthful := s.truthful && (s.pop.map (clipAg cfg)).all (truthB s.evals) } ∧
    changeOkB s.best s.evals s.evals s.pop (s.pop.map (clipAg cfg)) = true ∧
    s.cursor = s.pop.length := by
  simp only [apply, Option.ite_none_right_eq_some, Option.some.injEq, beq_iff_eq] at h
  obtain ⟨hcur, hok, rfl⟩ := h
  exact ⟨rfl, hok, hcur⟩

theorem trial_spec {cfg : Cfg} {s s' : St} {p : Pos} {v : Int} {pop' : List Ag}
    (h : apply cfg s (.trial p v pop') = some s') :
    s' = { s with pop := pop', evals := s.evals ++ [(p, v)], swept := false,
                  sinceHook := s.sinceHook + 1,
                  truthful := s.truthful && pop'.all (truthB (s.evals ++ [(p, v)])) } ∧
    consistentB s.evals p v = true ∧ v < cfg.fmax ∧ Truth s.evals s.best ∧
    changeOkB s.best s.evals (s.evals ++ [(p, v)]) s.pop pop' = true ∧
    coveredB s.best (s.evals ++ [(p, v)]) pop' v = true ∧
    pop'.length = s.pop.length ∧ s.cursor = s.pop.length := by
  simp only [apply, Option.ite_none_right_eq_some, Option.some.injEq, Bool.and_eq_true, beq_iff_eq,
    decide_eq_true_eq, truthB_iff] at h
  obtain ⟨⟨⟨⟨⟨⟨⟨hc, hv⟩, hb⟩, hok⟩, hcov⟩, hlen⟩, hcur⟩, rfl⟩ := h
  exact ⟨rfl, hc, hv, hb, hok, hcov, hlen, hcur⟩

theorem trialSwap_spec {cfg : Cfg} {s s' : St} {p : Pos} {v : Int} {i : Nat}
    (h : apply cfg s (.trialSwap p v i) = some s') :
    ∃ a, s.pop[i]? = some a ∧
    s' = { s with pop := s.pop.set i { pos := s.best.pos, tpos := s.best.tpos, fit := s.best.fit,
                                       ref := s.best.ref },
                  best := { pos := p, tpos := p, fit := v, ref := a.ref },
                  evals := s.evals ++ [(p, v)], swept := false, sinceHook := s.sinceHook + 1 } ∧
    consistentB s.evals p v = true ∧ v < s.best.fit ∧ Truth s.evals s.best ∧ a.pos = p ∧
    s.cursor = s.pop.length ∧ (Truth s.evals a → s.best.fit ≤ a.fit) := by
  simp only [apply] at h
  cases hai : s.pop[i]? with
  | none => simp [hai] at h
  | some a =>
    simp only [hai, Option.ite_none_right_eq_some, Option.some.injEq, Bool.and_eq_true, beq_iff_eq,
      decide_eq_true_eq, Bool.or_eq_true, Bool.not_eq_true', truthB_iff] at h
    obtain ⟨⟨⟨⟨⟨⟨hc, hv⟩, hb⟩, hap⟩, hcur⟩, hd⟩, rfl⟩ := h
    refine ⟨a, rfl, rfl, hc, hv, hb, hap, hcur, fun hT => hd.resolve_left ?_⟩
    rw [(truthB_iff _ _).2 hT]; simp

theorem sweep_spec {cfg : Cfg} {s s' : St} {v : Int} {tie : Bool} {r : Nat}
    (h : apply cfg s (.sweep v tie r) = some s') :
    ∃ a, s.pop[s.cursor]? = some a ∧
    s' = { s with pop := s.pop.set s.cursor (sweepAgent cfg a v),
                  best := if takes s.best (sweepAgent cfg a v) tie then bestOf (sweepAgent cfg a v) r
                          else s.best,
                  evals := s.evals ++ [(a.pos, v)],
                  cursor := s.cursor + 1,
                  swept := (s.cursor + 1 == s.pop.length),
                  tp := s.tp && truthB (s.evals ++ [(a.pos, v)]) (sweepAgent cfg a v),
                  truthful := (s.cursor + 1 == s.pop.length) && s.tp &&
                    truthB (s.evals ++ [(a.pos, v)]) (sweepAgent cfg a v),
                  sinceHook := s.sinceHook + 1 } ∧
    consistentB s.evals a.pos v = true ∧ v < cfg.fmax ∧
    (cfg.swarm = true ∨ a.tpos = a.pos) ∧
    (tie = true → (sweepAgent cfg a v).fit = s.best.fit →
      Truth (s.evals ++ [(a.pos, v)]) (sweepAgent cfg a v)) := by
  simp only [apply] at h
  cases hai : s.pop[s.cursor]? with
  | none => simp [hai] at h
  | some a =>
    simp only [hai, Option.ite_none_right_eq_some, Option.some.injEq, Bool.and_eq_true, beq_iff_eq,
      decide_eq_true_eq, Bool.or_eq_true, Bool.not_eq_true', Bool.and_eq_false_imp] at h
    obtain ⟨⟨⟨⟨hc, hv⟩, hsw⟩, ht⟩, rfl⟩ := h
    refine ⟨a, rfl, rfl, hc, hv, hsw, fun h1 h2 => ?_⟩
    rcases ht with ht | ht
    · exact absurd h2 (by simpa using ht h1)
    · exact (truthB_iff _ _).1 ht

theorem dump_spec {cfg : Cfg} {s s' : St} (h : apply cfg s .dump = some s') :
    s' = { s with dumps := s.dumps + 1, bestLog := s.bestLog ++ [s.best.fit],
                  truthLog := s.truthLog ++ [s.truthful],
                  fitLog := s.fitLog ++ [s.pop.map (·.fit)] } ∧
    s.swept = true ∧ s.cursor = s.pop.length := by
  simp only [apply, Option.ite_none_right_eq_some, Option.some.injEq, Bool.and_eq_true, beq_iff_eq] at h
  obtain ⟨⟨hsw, hcur⟩, rfl⟩ := h
  exact ⟨rfl, hsw, hcur⟩

theorem run_nil {cfg : Cfg} {s s' : St} : run cfg s [] = some s' ↔ s = s' := by simp [run]

theorem run_cons {cfg : Cfg} {s s' : St} {e : Ev} {es : List Ev} :
    run cfg s (e :: es) = some s' ↔ ∃ s1, apply cfg s e = some s1 ∧ run cfg s1 es = some s' := by
  simp only [run]
  cases apply cfg s e <;> simp

theorem run_append {cfg : Cfg} {a b : List Ev} {s s' : St} :
    run cfg s (a ++ b) = some s' ↔ ∃ s1, run cfg s a = some s1 ∧ run cfg s1 b = some s' := by
  induction a generalizing s with
  | nil => simp [run]
  | cons e es ih =>
    simp only [List.cons_append, run_cons, ih]
    exact ⟨fun ⟨s1, h1, s2, h2, h3⟩ => ⟨s2, ⟨s1, h1, h2⟩, h3⟩,
      fun ⟨s2, ⟨s1, h1, h2⟩, h3⟩ => ⟨s1, h1, s2, h2, h3⟩⟩

theorem run_concat {cfg : Cfg} {evs : List Ev} {e : Ev} {s s' : St} :
    run cfg s (evs ++ [e]) = some s' ↔ ∃ s1, run cfg s evs = some s1 ∧ apply cfg s1 e = some s' := by
  simp only [run_append, run_cons, run_nil, exists_eq_right]

theorem run_induction {cfg : Cfg} (P : St → Prop)
    (step : ∀ s s' e, apply cfg s e = some s' → P s → P s') (evs : List Ev) :
    ∀ s s', run cfg s evs = some s' → P s → P s' := by
  induction evs with
  | nil => intro s s' h hs; cases h; exact hs
  | cons e es ih =>
    intro s s' h hs
    obtain ⟨s1, h1, h2⟩ := run_cons.1 h
    exact ih s1 s' h2 (step s s1 e h1 hs)

end Opy
