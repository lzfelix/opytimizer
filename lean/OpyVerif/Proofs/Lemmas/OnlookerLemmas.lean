import OpyVerif.Model.Onlooker
/-!
Helper lemmas for `Proofs/C03onlooker.lean` (core Lean only): the pass as a count of `true` bits,
and what the loop of `Model/Onlooker.lean` returns from an arbitrary starting counter.
-/
namespace Opy

theorem runPass_eq (k : Nat) (p : List Bool) : runPass k p = k + p.count true := by
  unfold runPass
  induction p generalizing k with
  | nil => simp
  | cons b bs ih =>
    cases b
    · simp [ih]
    · simp [ih]; omega

theorem hits_nil : hits [] = 0 := by simp [hits]

theorem hits_cons (p : List Bool) (ps : List (List Bool)) :
    hits (p :: ps) = p.count true + hits ps := by
  simp [hits, List.count_append]

theorem hits_take_succ {passes : List (List Bool)} {j : Nat} (h : j < passes.length) :
    hits (passes.take (j + 1)) = hits (passes.take j) + passes[j].count true := by
  unfold hits
  rw [List.take_succ_eq_append_getElem h, List.flatten_append, List.count_append]
  simp

theorem hits_eq_zero_of_unfair (passes : List (List Bool))
    (h : ∀ p ∈ passes, ∀ b ∈ p, b = false) : hits passes = 0 := by
  unfold hits
  rw [List.count_eq_zero]
  intro hmem
  obtain ⟨p, hp, hb⟩ := List.mem_flatten.mp hmem
  exact absurd (h p hp true hb) (by decide)

theorem onlookerTrace_fst (n : Nat) (passes : List (List Bool)) (k : Nat) :
    (onlookerTrace n k passes).map (·.1) = onlooker n k passes := by
  induction passes generalizing k with
  | nil => by_cases hk : k < n <;> simp [onlooker, onlookerTrace, hk]
  | cons p ps ih =>
    by_cases hk : k < n
    · rw [onlooker, onlookerTrace, if_pos hk, if_pos hk, ← ih]
      cases onlookerTrace n (runPass k p) ps <;> simp
    · simp [onlooker, onlookerTrace, hk]

theorem onlookerTrace_spec (n : Nat) (passes : List (List Bool)) (k0 : Nat) :
    match onlookerTrace n k0 passes with
    | some (k, j) => j ≤ passes.length ∧ k = k0 + hits (passes.take j) ∧ n ≤ k ∧
        ∀ j', j' < j → k0 + hits (passes.take j') < n
    | none => ∀ j, j ≤ passes.length → k0 + hits (passes.take j) < n := by
  fun_induction onlookerTrace n k0 passes with
  | case1 k hk =>
    intro j hj
    rw [Nat.le_zero.1 hj]; simpa [hits_nil] using hk
  | case2 k hk => exact ⟨Nat.le_refl _, by simp [hits_nil], Nat.le_of_not_lt hk, nofun⟩
  | case3 k p ps hk ih =>
    -- after the pass `p` the loop runs on `ps` from `k + p.count true`; prefixes shift by one
    have shift (j : Nat) : k + hits ((p :: ps).take (j + 1)) = runPass k p + hits (ps.take j) := by
      rw [List.take_succ_cons, hits_cons, runPass_eq, Nat.add_assoc]
    have zero : k + hits ((p :: ps).take 0) < n := by simpa [hits_nil] using hk
    cases hr : onlookerTrace n (runPass k p) ps with
    | none =>
      rw [hr] at ih
      intro j hj
      cases j with
      | zero => exact zero
      | succ j => rw [shift]; exact ih j (Nat.le_of_succ_le_succ hj)
    | some r =>
      rw [hr] at ih
      obtain ⟨h1, h2, h3, h4⟩ := ih
      refine ⟨Nat.succ_le_succ h1, by rw [shift]; exact h2, h3, fun j' hj' => ?_⟩
      cases j' with
      | zero => exact zero
      | succ j' => rw [shift]; exact h4 j' (Nat.lt_of_succ_lt_succ hj')
  | case4 k p ps hk => exact ⟨Nat.zero_le _, by simp [hits_nil], Nat.le_of_not_lt hk, nofun⟩

end Opy
