import OpyVerif.Proofs.Lemmas.MachineSpec
import OpyVerif.Proofs.Lemmas.ListLemmas
/-!
Helper lemmas: the invariant `Inv` of the abstract optimiser machine and its preservation by every
event.  Property theorems that use it live in `Proofs/C02.lean`, `C01.lean` (`C01_best_feasible`), `C20.lean`.
-/
namespace Opy

/-- What holds of every state the machine reaches from a freshly built space (`inv_reach`). -/
structure Inv (cfg : Cfg) (s : St) : Prop where
  /-- envelope: becomes `lower` when a sweep has passed over every agent -/
  env  : ∀ e ∈ s.evals, s.best.fit ≤ e.2 ∨ ∃ a ∈ s.pop, Truth s.evals a ∧ a.fit ≤ e.2
  /-- anchoring: an agent that beats the best is truthful, so a record the best takes over is one -/
  anch : ∀ a ∈ s.pop, Truth s.evals a ∨ s.best.fit ≤ a.fit
  best : Truth s.evals s.best ∨ (s.evals = [] ∧ s.best.fit = cfg.fmax)
  /-- from the guard `v < cfg.fmax`: the first evaluation replaces the sentinel best -/
  below : ∀ e ∈ s.evals, e.2 < cfg.fmax
  cur : s.cursor ≤ s.pop.length
  /-- during a sweep (`cursor < length`): the agents already swept are no better than the best; between sweeps `lower` takes over -/
  pre : s.cursor < s.pop.length →
    ∀ j (h : j < s.pop.length), j < s.cursor → s.best.fit ≤ (s.pop[j]'h).fit
  /-- C02, from the end of a sweep to the next evaluation -/
  lower : s.swept = true → (s.evals ≠ [] ∧ ∀ e ∈ s.evals, s.best.fit ≤ e.2)
  logLe : ∀ x ∈ s.bestLog, s.best.fit ≤ x
  logSorted : s.bestLog.Pairwise (fun a b => b ≤ a)
  tpI : s.cursor < s.pop.length → s.tp = true →
    ∀ j (h : j < s.pop.length), j < s.cursor → Truth s.evals (s.pop[j]'h)
  /-- C20: the flag `truthful` is sound -/
  truthI : s.truthful = true → ∀ a ∈ s.pop, Truth s.evals a

/-- what `changeOkB` buys: the envelope and the anchoring survive the population change -/
theorem change_sound {best : Ag} {ev ev' : List (Pos × Int)} {pop pop' : List Ag}
    (hok : changeOkB best ev ev' pop pop' = true)
    (henv : ∀ e ∈ ev, best.fit ≤ e.2 ∨ ∃ a ∈ pop, Truth ev a ∧ a.fit ≤ e.2) :
    (∀ e ∈ ev, best.fit ≤ e.2 ∨ ∃ b ∈ pop', Truth ev' b ∧ b.fit ≤ e.2) ∧
    (∀ b ∈ pop', Truth ev' b ∨ best.fit ≤ b.fit) := by
  simp only [changeOkB, Bool.and_eq_true, List.all_eq_true, Bool.or_eq_true, List.any_eq_true,
    decide_eq_true_eq, Bool.not_eq_true', truthB_iff] at hok
  obtain ⟨h1, h2⟩ := hok
  refine ⟨fun e he => ?_, h1⟩
  rcases henv e he with h | ⟨a, ha, hta, hle⟩
  · exact Or.inl h
  · rcases h2 a ha with (hf | hb) | ⟨b, hb, hbt, hble⟩
    · rw [(truthB_iff ev a).2 hta] at hf; cases hf
    · exact Or.inl (Int.le_trans hb hle)
    · exact Or.inr ⟨b, hb, hbt, Int.le_trans hble hle⟩

/-- `truthI` after the events that set `truthful := old && pop.all (truthB evals)` -/
theorem all_truthB {ev : List (Pos × Int)} {pop : List Ag} {t : Bool}
    (h : (t && pop.all (truthB ev)) = true) : ∀ a ∈ pop, Truth ev a := by
  simp only [Bool.and_eq_true, List.all_eq_true, truthB_iff] at h
  exact h.2

/-- between sweeps (cursor at the end) the clauses about a sweep in progress hold vacuously -/
theorem idle {c n : Nat} {P : Prop} (h : c = n) : c < n → P :=
  fun hlt => absurd h (Nat.ne_of_lt hlt)

/-- population-only change (hook / update / clipAll): evaluation log and best untouched; the
    cursor ends at the start of the population or stays at its end -/
theorem inv_popChange {cfg : Cfg} {s : St} {pop' : List Ag} (c : Nat) (tp' : Bool) (hk sh : Nat)
    (hi : Inv cfg s) (hok : changeOkB s.best s.evals s.evals s.pop pop' = true)
    (hc : c ≤ pop'.length) (hc0 : c < pop'.length → c = 0) :
    Inv cfg { s with pop := pop', cursor := c, tp := tp', hooks := hk, sinceHook := sh,
                     truthful := s.truthful && pop'.all (truthB s.evals) } := by
  obtain ⟨henv, hanch⟩ := change_sound hok hi.env
  exact { hi with
    env := henv, anch := hanch, cur := hc, truthI := all_truthB
    pre := fun hlt j _ hjc => absurd (hc0 hlt ▸ hjc) (Nat.not_lt_zero j)
    tpI := fun hlt _ j _ hjc => absurd (hc0 hlt ▸ hjc) (Nat.not_lt_zero j) }

theorem inv_hook (cfg : Cfg) (s s' : St) (pop' : List Ag) (hi : Inv cfg s)
    (h : apply cfg s (.hook pop') = some s') : Inv cfg s' := by
  obtain ⟨rfl, hok, _⟩ := hook_spec h
  exact inv_popChange 0 true _ _ hi hok (Nat.zero_le _) (fun _ => rfl)

theorem inv_update (cfg : Cfg) (s s' : St) (pop' : List Ag) (hi : Inv cfg s)
    (h : apply cfg s (.update pop') = some s') : Inv cfg s' := by
  obtain ⟨rfl, hok, hlen, hcur⟩ := update_spec h
  exact inv_popChange s.cursor s.tp s.hooks s.sinceHook hi hok (Nat.le_of_eq (hcur.trans hlen.symm))
    (idle (hcur.trans hlen.symm))

theorem inv_clipAll (cfg : Cfg) (s s' : St) (hi : Inv cfg s)
    (h : apply cfg s .clipAll = some s') : Inv cfg s' := by
  obtain ⟨rfl, hok, hcur⟩ := clipAll_spec h
  have hidle : s.cursor = (s.pop.map (clipAg cfg)).length := hcur.trans (List.length_map _).symm
  exact inv_popChange s.cursor s.tp s.hooks s.sinceHook hi hok (Nat.le_of_eq hidle) (idle hidle)

theorem inv_dump (cfg : Cfg) (s s' : St) (hi : Inv cfg s)
    (h : apply cfg s .dump = some s') : Inv cfg s' := by
  obtain ⟨rfl, _⟩ := dump_spec h
  have hp := Task.Chain.push (key := id) Int.le_refl ⟨hi.logLe, hi.logSorted⟩ s.best.fit rfl
  exact { hi with logLe := hp.1, logSorted := hp.2 }

theorem inv_trial (cfg : Cfg) (s s' : St) (p : Pos) (v : Int) (pop' : List Ag) (hi : Inv cfg s)
    (h : apply cfg s (.trial p v pop') = some s') : Inv cfg s' := by
  obtain ⟨rfl, _, hv, hbT, hok, hcov, hlen, hcur⟩ := trial_spec h
  obtain ⟨henv, hanch⟩ := change_sound hok hi.env
  refine ⟨?env, hanch, Or.inl (Truth.mono _ hbT), ?below, ?cur, ?pre, ?lower, hi.logLe, hi.logSorted,
    ?tpI, all_truthB⟩
  case env =>
    intro e he
    rcases mem_concat_cases he with he | rfl
    · exact henv e he
    · simpa only [coveredB, Bool.or_eq_true, decide_eq_true_eq, List.any_eq_true,
        Bool.and_eq_true, truthB_iff] using hcov
  case below => exact List.forall_mem_append.2 ⟨hi.below, List.forall_mem_singleton.2 hv⟩
  case cur => exact Nat.le_of_eq (hcur.trans hlen.symm)
  case pre => exact idle (hcur.trans hlen.symm)
  case lower => intro hsw; cases hsw
  case tpI => exact idle (hcur.trans hlen.symm)

theorem inv_trialSwap (cfg : Cfg) (s s' : St) (p : Pos) (v : Int) (i : Nat) (hi : Inv cfg s)
    (h : apply cfg s (.trialSwap p v i) = some s') : Inv cfg s' := by
  obtain ⟨a, hai, rfl, _, hv, hbT, _, hcur, hdisc⟩ := trialSwap_spec h
  obtain ⟨hil, hia⟩ := List.getElem?_eq_some_iff.1 hai
  have hold : Truth (s.evals ++ [(p, v)])
      { pos := s.best.pos, tpos := s.best.tpos, fit := s.best.fit, ref := s.best.ref } :=
    Truth.mono _ hbT
  have hvb : v ≤ s.best.fit := Int.le_of_lt hv
  have hidle (y : Ag) : s.cursor = (s.pop.set i y).length := hcur.trans List.length_set.symm
  refine ⟨?env, ?anch, Or.inl (by simp [Truth]), ?below, Nat.le_of_eq (hidle _), idle (hidle _), ?lower,
    ?logLe, hi.logSorted, idle (hidle _), ?truthI⟩
  case env =>
    intro e he
    rcases mem_concat_cases he with he | rfl
    · rcases hi.env e he with h1 | ⟨w, hw, hwt, hwle⟩
      · exact Or.inl (Int.le_trans hvb h1)
      · rcases mem_set_of_mem s.pop i _ w hil hw with h2 | h2
        · exact Or.inr ⟨w, h2, Truth.mono _ hwt, hwle⟩
        · -- the witness was the displaced agent: the old best is below it (`hdisc`), the new value below the old best
          rw [h2, hia] at hwt hwle
          exact Or.inl (Int.le_trans hvb (Int.le_trans (hdisc hwt) hwle))
    · exact Or.inl (Int.le_refl _)
  case anch =>
    intro b hb
    rcases List.mem_or_eq_of_mem_set hb with hb | rfl
    · rcases hi.anch b hb with h1 | h1
      · exact Or.inl (Truth.mono _ h1)
      · exact Or.inr (Int.le_trans hvb h1)
    · exact Or.inl hold
  case below =>
    exact List.forall_mem_append.2 ⟨hi.below, List.forall_mem_singleton.2 (Int.lt_trans hv (hi.below (s.best.tpos, s.best.fit) hbT))⟩
  case lower => intro hsw; cases hsw
  case logLe => exact fun x hx => Int.le_trans hvb (hi.logLe x hx)
  case truthI =>
    intro ht b hb
    rcases List.mem_or_eq_of_mem_set hb with hb | rfl
    · exact Truth.mono _ (hi.truthI ht b hb)
    · exact hold

/-- the sweep step, knowing of the swept agent `a'`, the new best `b'` and the logged call `x` only what
    the hypotheses say -/
theorem inv_sweepStep {cfg : Cfg} {s : St} {a a' b' : Ag} {x : Pos × Int}
    (sw tp' tr' : Bool) (sh : Nat)
    (hi : Inv cfg s) (hai : s.pop[s.cursor]? = some a)
    (hx : x.2 < cfg.fmax) (hv' : a'.fit ≤ x.2)
    (hb1 : b'.fit ≤ s.best.fit) (hb2 : b'.fit ≤ a'.fit)
    (hbT : Truth (s.evals ++ [x]) b' ∨ b' = s.best)
    -- the agent at the cursor may be a witness of `env`: if it was truthful, its successor is, and is no worse
    (hkeep : Truth s.evals a → Truth (s.evals ++ [x]) a' ∧ a'.fit ≤ a.fit)
    (hsw : sw = true → s.cursor + 1 = s.pop.length)
    (htp : tp' = true → s.tp = true ∧ Truth (s.evals ++ [x]) a')
    (htr : tr' = true → s.cursor + 1 = s.pop.length ∧ s.tp = true ∧ Truth (s.evals ++ [x]) a') :
    Inv cfg { s with pop := s.pop.set s.cursor a', best := b', evals := s.evals ++ [x],
                     cursor := s.cursor + 1, swept := sw, tp := tp', truthful := tr',
                     sinceHook := sh } := by
  obtain ⟨hcl, hca⟩ := List.getElem?_eq_some_iff.1 hai
  have hmono : ∀ b, Truth s.evals b → Truth (s.evals ++ [x]) b := fun b hb => Truth.mono _ hb
  -- every agent up to and including the cursor is no better than the new best
  have allLe := prefix_set (P := fun b => b'.fit ≤ b.fit) hb2
    (fun j h hj => Int.le_trans hb1 (hi.pre hcl j h hj))
  -- … and truthful if the running flag says so
  have allT (h1 : s.tp = true) (h2 : Truth (s.evals ++ [x]) a') :=
    prefix_set (P := Truth _) h2 (fun j h hj => hmono _ (hi.tpI hcl h1 j h hj))
  have henv' : ∀ e ∈ s.evals ++ [x], b'.fit ≤ e.2 ∨
      ∃ b ∈ s.pop.set s.cursor a', Truth (s.evals ++ [x]) b ∧ b.fit ≤ e.2 := by
    intro e he
    rcases mem_concat_cases he with he | rfl
    · rcases hi.env e he with h1 | ⟨w, hw, hwt, hwle⟩
      · exact Or.inl (Int.le_trans hb1 h1)
      · rcases mem_set_of_mem s.pop s.cursor a' w hcl hw with h2 | h2
        · exact Or.inr ⟨w, h2, hmono w hwt, hwle⟩
        · rw [h2, hca] at hwt hwle
          obtain ⟨h3, h4⟩ := hkeep hwt
          exact Or.inr ⟨a', List.mem_set hcl a', h3, Int.le_trans h4 hwle⟩
    · exact Or.inl (Int.le_trans hb2 hv')
  refine ⟨henv', ?anch, ?best, ?below, ?cur, fun _ => allLe, ?lower, ?logLe, hi.logSorted, ?tpI, ?truthI⟩
  case anch =>
    intro b hb
    rcases List.mem_or_eq_of_mem_set hb with hb | rfl
    · rcases hi.anch b hb with h1 | h1
      · exact Or.inl (hmono _ h1)
      · exact Or.inr (Int.le_trans hb1 h1)
    · exact Or.inr hb2
  case best =>
    rcases hbT with h1 | rfl
    · exact Or.inl h1
    · rcases hi.best with h1 | ⟨_, h2⟩
      · exact Or.inl (hmono _ h1)
      · -- the best still holds the sentinel, which the new value is below
        exact absurd (Int.le_trans hb2 hv') (Int.not_le.2 (h2 ▸ hx))
  case below => exact List.forall_mem_append.2 ⟨hi.below, List.forall_mem_singleton.2 hx⟩
  case cur => exact List.length_set.symm ▸ hcl
  case lower =>
    intro hsw'
    refine ⟨by simp, fun e he => ?_⟩
    rcases henv' e he with h1 | ⟨b, hb, _, hble⟩
    · exact h1
    · obtain ⟨k, hk, rfl⟩ := List.getElem_of_mem hb
      exact Int.le_trans (allLe k hk (hsw hsw' ▸ List.length_set ▸ hk)) hble
  case logLe => exact fun y hy => Int.le_trans hb1 (hi.logLe y hy)
  case tpI => exact fun _ htp' => allT (htp htp').1 (htp htp').2
  case truthI =>
    intro ht b hb
    obtain ⟨hn, h1, h2⟩ := htr ht
    obtain ⟨k, hk, rfl⟩ := List.getElem_of_mem hb
    exact allT h1 h2 k hk (hn ▸ List.length_set ▸ hk)

theorem inv_sweep (cfg : Cfg) (s s' : St) (v : Int) (tie : Bool) (ref' : Nat) (hi : Inv cfg s)
    (h : apply cfg s (.sweep v tie ref') = some s') : Inv cfg s' := by
  obtain ⟨a, hai, rfl, hcons, hv, hsw, htie⟩ := sweep_spec h
  obtain ⟨hcl, hca⟩ := List.getElem?_eq_some_iff.1 hai
  have hkeep : Truth s.evals a → Truth (s.evals ++ [(a.pos, v)]) (sweepAgent cfg a v) :=
    sweepAgent_truth_of_truth cfg s.evals a v
  obtain ⟨hb1, hb2⟩ := rule_best s.best (sweepAgent cfg a v) tie ref'
  refine inv_sweepStep _ _ _ _ hi hai hv (sweepAgent_fit_le_val cfg a v) hb1 hb2 ?_
    (fun hT => ⟨hkeep hT, sweepAgent_fit_le_of_truth cfg s.evals a v hcons hsw hT⟩)
    (hsw := by simp) (htp := by simp [truthB_iff])
    (htr := by simp [truthB_iff]; exact fun h1 h2 h3 => ⟨h1, h2, h3⟩)
  -- a record the best takes over is truthful
  split
  · rename_i ht
    left
    show Truth _ (sweepAgent cfg a v)
    rcases (takes_iff _ _ _).1 ht with hlt | ⟨h1, h2⟩
    · rcases sweepAgent_truth cfg s.evals a v with h3 | ⟨h3, _⟩
      · exact h3
      · rcases hi.anch a (hca ▸ List.getElem_mem _) with h4 | h4
        · exact hkeep h4
        · rw [h3] at hlt; omega
    · exact htie h1 h2
  · exact Or.inr rfl

theorem inv_apply (cfg : Cfg) (s s' : St) (e : Ev) (hi : Inv cfg s)
    (h : apply cfg s e = some s') : Inv cfg s' := by
  cases e with
  | hook p => exact inv_hook cfg s s' p hi h
  | update p => exact inv_update cfg s s' p hi h
  | trial p v pop' => exact inv_trial cfg s s' p v pop' hi h
  | trialSwap p v i => exact inv_trialSwap cfg s s' p v i hi h
  | sweep v tie r => exact inv_sweep cfg s s' v tie r hi h
  | clipAll => exact inv_clipAll cfg s s' hi h
  | dump => exact inv_dump cfg s s' hi h

theorem inv_run (cfg : Cfg) (evs : List Ev) : ∀ (s s' : St), Inv cfg s → run cfg s evs = some s' →
    Inv cfg s' :=
  fun s s' hi h => run_induction (Inv cfg) (fun s s' e h hi => inv_apply cfg s s' e hi h) evs s s' h hi

theorem inv_init (cfg : Cfg) (pop : List Ag) (best : Ag)
    (hp : ∀ a ∈ pop, a.fit = cfg.fmax) (hb : best.fit = cfg.fmax) : Inv cfg (initSt pop best) where
  -- nothing logged, nothing swept, no sweep in progress
  env := fun _ he => absurd he List.not_mem_nil
  anch := fun a ha => Or.inr (Int.le_of_eq (hb.trans (hp a ha).symm))
  best := Or.inr ⟨rfl, hb⟩
  below := fun _ he => absurd he List.not_mem_nil
  cur := Nat.le_refl _
  pre := idle rfl
  lower := nofun
  logLe := fun _ hx => absurd hx List.not_mem_nil
  logSorted := List.Pairwise.nil
  tpI := idle rfl
  truthI := nofun

theorem inv_reach {cfg : Cfg} {pop : List Ag} {best : Ag} {evs : List Ev} {s' : St}
    (hp : ∀ a ∈ pop, a.fit = cfg.fmax) (hb : best.fit = cfg.fmax)
    (h : run cfg (initSt pop best) evs = some s') : Inv cfg s' :=
  inv_run cfg evs _ s' (inv_init cfg pop best hp hb) h

end Opy
