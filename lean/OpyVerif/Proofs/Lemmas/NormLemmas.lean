import OpyVerif.Model.Normalise
import OpyVerif.Proofs.RealElem
import OpyVerif.Proofs.Lemmas.ListSum
/-!
Helper lemmas for `Proofs/C03norm.lean`: the formulas of `Model/Normalise.lean` instantiated at `ℝ`
as ordinary real expressions, and the list / finite-sum facts the property theorems are assembled
from.
-/
namespace Opy

theorem gsaBest_real (fits : List ℝ) : gsaBest fits = fits.head?.getD 0 := by
  unfold gsaBest; simp only [elem_ofNat', Nat.cast_zero]

theorem gsaWorst_real (fits : List ℝ) : gsaWorst fits = fits.getLast?.getD 0 := by
  unfold gsaWorst; simp only [elem_ofNat', Nat.cast_zero]

theorem gsaDen1_real (eps : ℝ) (fits : List ℝ) :
    gsaDen1 eps fits = gsaBest fits - gsaWorst fits - eps := by
  unfold gsaDen1; simp only [elem_sub]

theorem gsaRawMass_real (eps : ℝ) (fits : List ℝ) :
    gsaRawMass eps fits = fits.map fun f => (f - gsaWorst fits) / gsaDen1 eps fits := by
  unfold gsaRawMass; simp only [elem_sub, elem_div]

theorem gsaDen2_real (eps : ℝ) (fits : List ℝ) :
    gsaDen2 eps fits = (gsaRawMass eps fits).sum + eps := by
  unfold gsaDen2; simp only [elem_add, sumL_eq_sum]

theorem gsaMass_real (eps : ℝ) (fits : List ℝ) :
    gsaMass eps fits = (gsaRawMass eps fits).map fun m => m / gsaDen2 eps fits := by
  unfold gsaMass; simp only [elem_div]

theorem bhaRadius_real (b cost : ℝ) : bhaRadius b cost = b / cost := by
  unfold bhaRadius; simp only [elem_div]

theorem wcaCost_real (nsr : ℕ) (fits : List ℝ) : wcaCost nsr fits = (fits.take nsr).sum := by
  unfold wcaCost; rw [sumL_eq_sum]

theorem wcaShare_real (nsr : ℕ) (fits : List ℝ) (i : ℕ) :
    wcaShare nsr fits i = fits.getD i 0 / (fits.take nsr).sum := by
  unfold wcaShare; simp only [elem_div, elem_ofNat', Nat.cast_zero, wcaCost_real]

theorem wcaFlowReal_real (nsr n : ℕ) (fits : List ℝ) (i : ℕ) :
    wcaFlowReal nsr n fits i = |wcaShare nsr fits i| * ((n - nsr : ℕ) : ℝ) := by
  unfold wcaFlowReal; simp only [elem_mul, elem_abs, elem_ofNat']

theorem gsaBest_mem (fits : List ℝ) (hne : fits ≠ []) : gsaBest fits ∈ fits := by
  rw [gsaBest_real, List.head?_eq_some_head hne, Option.getD_some]; exact List.head_mem hne

theorem gsaWorst_eq_getLast (fits : List ℝ) (hne : fits ≠ []) :
    gsaWorst fits = fits.getLast hne := by
  rw [gsaWorst_real, List.getLast?_eq_some_getLast hne, Option.getD_some]

theorem gsaWorst_mem (fits : List ℝ) (hne : fits ≠ []) : gsaWorst fits ∈ fits := by
  rw [gsaWorst_eq_getLast fits hne]; exact List.getLast_mem hne

theorem le_gsaWorst (fits : List ℝ) (hs : fits.Pairwise (· ≤ ·)) (x : ℝ) (hx : x ∈ fits) :
    x ≤ gsaWorst fits := by
  rw [gsaWorst_eq_getLast fits (List.ne_nil_of_mem hx)]; exact hs.rel_getLast hx

theorem gsaBest_le_gsaWorst (fits : List ℝ) (hs : fits.Pairwise (· ≤ ·)) :
    gsaBest fits ≤ gsaWorst fits := by
  by_cases hne : fits = []
  · subst hne; exact le_refl _
  · exact le_gsaWorst fits hs _ (gsaBest_mem fits hne)

theorem gsaBest_eq_gsaWorst_of_const (fits : List ℝ) (c : ℝ) (h : ∀ x ∈ fits, x = c) :
    gsaBest fits = gsaWorst fits := by
  by_cases hne : fits = []
  · subst hne; rfl
  · rw [h _ (gsaBest_mem fits hne), h _ (gsaWorst_mem fits hne)]

theorem gsaRawMass_of_const (eps c : ℝ) (fits : List ℝ) (h : ∀ x ∈ fits, x = c) :
    ∀ r ∈ gsaRawMass eps fits, r = 0 := by
  intro r hr
  rw [gsaRawMass_real] at hr
  obtain ⟨f, hf, rfl⟩ := List.mem_map.mp hr
  rw [h f hf, h _ (gsaWorst_mem fits (List.ne_nil_of_mem hf)), sub_self, zero_div]

theorem getD_of_lt (l : List ℝ) (i : ℕ) (h : i < l.length) : l.getD i 0 = l[i] := by simp [h]

theorem sum_range_getD (l : List ℝ) (m : ℕ) (hm : m ≤ l.length) :
    ∑ k ∈ Finset.range m, l.getD k 0 = (l.take m).sum := by
  induction m with
  | zero => simp
  | succ m ih =>
    have hlt : m < l.length := hm
    rw [Finset.sum_range_succ, ih (Nat.le_of_succ_le hm), List.sum_take_succ l m hlt,
      getD_of_lt l m hlt]

theorem getD_mem_take (l : List ℝ) (m i : ℕ) (hi : i < m) (hm : m ≤ l.length) :
    l.getD i 0 ∈ l.take m := by
  rw [getD_of_lt l i (hi.trans_le hm)]
  exact List.mem_take_iff_getElem.mpr ⟨i, by omega, rfl⟩

theorem sum_take_pos (nsr : ℕ) (fits : List ℝ) (hpos : ∀ x ∈ fits.take nsr, 0 < x)
    (h1 : 1 ≤ nsr) (hn : nsr ≤ fits.length) : 0 < (fits.take nsr).sum :=
  List.sum_pos _ hpos (List.ne_nil_of_length_pos (by rw [List.length_take]; omega))

theorem wcaShare_pos (nsr : ℕ) (fits : List ℝ) (i : ℕ) (hpos : ∀ x ∈ fits.take nsr, 0 < x)
    (hi : i < nsr) (hn : nsr ≤ fits.length) : 0 < wcaShare nsr fits i := by
  rw [wcaShare_real]
  exact div_pos (hpos _ (getD_mem_take fits nsr i hi hn)) (sum_take_pos nsr fits hpos (by omega) hn)

theorem wcaShare_le_one (nsr : ℕ) (fits : List ℝ) (i : ℕ) (hpos : ∀ x ∈ fits.take nsr, 0 < x)
    (hi : i < nsr) (hn : nsr ≤ fits.length) : wcaShare nsr fits i ≤ 1 := by
  rw [wcaShare_real, div_le_one (sum_take_pos nsr fits hpos (by omega) hn)]
  exact List.single_le_sum (fun x hx => (hpos x hx).le) _ (getD_mem_take fits nsr i hi hn)

theorem rnd_le (rnd : ℝ → ℤ) (hr : ∀ y, |(rnd y : ℝ) - y| ≤ 1 / 2) (y : ℝ) :
    (rnd y : ℝ) ≤ y + 1 / 2 :=
  sub_le_iff_le_add'.mp (abs_le.mp (hr y)).2

theorem rnd_nonneg (rnd : ℝ → ℤ) (hr : ∀ y, |(rnd y : ℝ) - y| ≤ 1 / 2) (y : ℝ) (hy : 0 ≤ y) :
    0 ≤ rnd y := by
  have h : -(1 / 2 : ℝ) ≤ rnd y := (abs_le.mp (hr y)).1.trans (sub_le_self _ hy)
  have h2 : ((-1 : ℤ) : ℝ) < rnd y := lt_of_lt_of_le (by norm_num) h
  have := Int.cast_lt.mp h2
  omega

theorem sum_rnd_le (rnd : ℝ → ℤ) (hr : ∀ y, |(rnd y : ℝ) - y| ≤ 1 / 2) (s : Finset ℕ) (y : ℕ → ℝ) :
    ((∑ k ∈ s, rnd (y k) : ℤ) : ℝ) ≤ ∑ k ∈ s, y k + s.card * (1 / 2) := by
  rw [Int.cast_sum, ← nsmul_eq_mul, ← Finset.sum_const, ← Finset.sum_add_distrib]
  exact Finset.sum_le_sum fun k _ => rnd_le rnd hr _

end Opy
