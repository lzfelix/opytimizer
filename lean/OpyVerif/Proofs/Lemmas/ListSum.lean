import Mathlib.Algebra.Order.BigOperators.Group.List
import Mathlib.Algebra.BigOperators.Ring.List
import Mathlib.Data.Real.Basic
/-!
Sums over a mapped list compared term by term: the one fact behind every bound of a `np.sum` in
C03, C13, C16 and C17.  The bounds are Mathlib's `List.sum_le_sum` with one side constant.
-/
namespace Opy
variable {β : Type}

theorem sum_map_nonneg (f : β → ℝ) (l : List β) (h : ∀ v ∈ l, 0 ≤ f v) : 0 ≤ (l.map f).sum :=
  List.sum_nonneg (List.forall_mem_map.mpr h)

theorem sum_map_pos (f : β → ℝ) (l : List β) (hl : 1 ≤ l.length) (h : ∀ v ∈ l, 0 < f v) :
    0 < (l.map f).sum :=
  List.sum_pos _ (List.forall_mem_map.mpr h)
    (mt List.map_eq_nil_iff.mp (List.ne_nil_of_length_pos hl))

theorem sum_map_eq_zero (f : β → ℝ) (l : List β) (h : ∀ v ∈ l, f v = 0) : (l.map f).sum = 0 :=
  List.sum_eq_zero (List.forall_mem_map.mpr h)

theorem sum_map_le_card_mul (f : β → ℝ) (c : ℝ) (l : List β) (h : ∀ v ∈ l, f v ≤ c) :
    (l.map f).sum ≤ l.length * c := by
  simpa using List.sum_le_sum (g := fun _ => c) h

theorem card_mul_le_sum_map (f : β → ℝ) (c : ℝ) (l : List β) (h : ∀ v ∈ l, c ≤ f v) :
    l.length * c ≤ (l.map f).sum := by
  simpa using List.sum_le_sum (f := fun _ => c) h

theorem sum_map_eq_card_mul (f : β → ℝ) (c : ℝ) (l : List β) (h : ∀ v ∈ l, f v = c) :
    (l.map f).sum = l.length * c :=
  le_antisymm (sum_map_le_card_mul f c l fun v hv => (h v hv).le)
    (card_mul_le_sum_map f c l fun v hv => (h v hv).ge)

theorem mean_map_le (f : β → ℝ) (c : ℝ) (l : List β) (hl : 1 ≤ l.length) (h : ∀ v ∈ l, f v ≤ c) :
    1 / (l.length : ℝ) * (l.map f).sum ≤ c := by
  have hpos : (0 : ℝ) < l.length := Nat.cast_pos.mpr hl
  rw [one_div, inv_mul_le_iff₀ hpos]
  exact sum_map_le_card_mul f c l h

theorem sum_map_replicate (f : ℝ → ℝ) (n : ℕ) (a : ℝ) :
    ((List.replicate n a).map f).sum = n * f a := by
  simp

theorem sum_map_div (l : List ℝ) (c : ℝ) : (l.map fun m => m / c).sum = l.sum / c := by
  simpa [div_eq_mul_inv] using List.sum_map_mul_right (r := c⁻¹) (f := id) (l := l)

end Opy
