/-!
General facts about lists: no statement here mentions the model (a docstring may say which model functions a fact serves).
Core Lean only.
Defines: `Task.Chain` (a list of records that only improve, with the live value below all of them).
-/
namespace Opy

/-- `lookupA`, `kvLookup`, `Hist.lookup` and `FS.read` are all this lookup -/
theorem assoc_cons {β : Type} (k' : String) (x : β) (l : List (String × β)) (k : String) :
    (((k', x) :: l).find? (fun kv => decide (kv.1 = k))).map (·.2) =
      if k' = k then some x else (l.find? (fun kv => decide (kv.1 = k))).map (·.2) := by
  by_cases h : k' = k <;> simp [h]

/-- in an association list with distinct keys, entry `i` is what its key looks up -/
theorem lookup_of_getElem? {α β : Type} [BEq α] [LawfulBEq α] {l : List (α × β)} (hnd : (l.map (·.1)).Nodup) {i : Nat} {k : α} {v : β}
    (h : l[i]? = some (k, v)) : l.lookup k = some v := by
  induction l generalizing i with
  | nil => simp at h
  | cons kv l ih =>
    obtain ⟨k', v'⟩ := kv
    rw [List.map_cons, List.nodup_cons] at hnd
    cases i with
    | zero => cases h; rw [List.lookup_cons, beq_self_eq_true]
    | succ i =>
      rw [List.getElem?_cons_succ] at h
      have hk : k ≠ k' := fun e => hnd.1 (e ▸ List.mem_map_of_mem (f := (·.1)) (List.mem_of_getElem? h))
      rw [List.lookup_cons, beq_false_of_ne hk]
      exact ih hnd.2 h

theorem mapM_eq_some_of_map {α β : Type} (g : α → Option β) (rs : List α) (parts : List β)
    (h : rs.map g = parts.map some) : rs.mapM g = some parts :=
  calc rs.mapM g = (rs.map g).mapM id := (List.mapM_map (g := id)).symm
    _ = parts.mapM (fun b => pure (id b)) := by rw [h, List.mapM_map]; rfl
    _ = some parts := by rw [List.mapM_pure, List.map_id]; rfl

theorem mapM_eq_none_of_mem {α β : Type} (g : α → Option β) (rs : List α)
    (h : ∃ r ∈ rs, g r = none) : rs.mapM g = none := by
  obtain ⟨r, hr, hn⟩ := h
  obtain ⟨s, t, rfl⟩ := List.append_of_mem hr
  rw [List.mapM_append, List.mapM_cons, hn]
  cases s.mapM g <;> rfl

theorem map_eq_filterMap_of_isSome {α β : Type} (g : α → Option β) (rs : List α)
    (h : ∀ r ∈ rs, (g r).isSome = true) :
    rs.map g = (rs.filterMap g).map some ∧ (rs.filterMap g).length = rs.length := by
  have : (rs.filterMap g).map some = rs.map g := by
    rw [List.map_filterMap_some_eq_filter_map_isSome, List.filter_eq_self]
    exact List.forall_mem_map.mpr h
  exact ⟨this.symm, by rw [← List.length_map some, this, List.length_map]⟩

theorem length_flatMap_const {β γ : Type} (g : β → List γ) (d : Nat) (l : List β)
    (h : ∀ b ∈ l, (g b).length = d) : (l.flatMap g).length = l.length * d := by
  rw [List.length_flatMap, List.map_congr_left h, List.map_const', List.sum_replicate_nat]

theorem flatMap_congr' {β γ : Type} {g g' : β → List γ} {l : List β}
    (h : ∀ b ∈ l, g b = g' b) : l.flatMap g = l.flatMap g' := by
  rw [List.flatMap_def, List.flatMap_def, List.map_congr_left h]

theorem mem_set_of_mem {α : Type} (l : List α) (i : Nat) (x a : α) (hi : i < l.length)
    (h : a ∈ l) : a ∈ l.set i x ∨ a = l[i] :=
  List.mem_or_eq_of_mem_set (l := l.set i x) (i := i) (b := l[i]) (by simpa using h)

/-- `P` holds of the first `i` entries and of `x`: it holds of the first `i + 1` entries of `l.set i x` -/
theorem prefix_set {α : Type} {P : α → Prop} {l : List α} {i : Nat} {x : α} (hx : P x)
    (hl : ∀ j (h : j < l.length), j < i → P l[j]) :
    ∀ j (h : j < (l.set i x).length), j < i + 1 → P (l.set i x)[j] := by
  intro j h hj
  rw [List.getElem_set]
  split
  · exact hx
  · rename_i hne
    exact hl j (List.length_set ▸ h) (Nat.lt_of_le_of_ne (Nat.le_of_lt_succ hj) (Ne.symm hne))

theorem map_set_same {α β : Type} (f : α → β) (l : List α) (i : Nat) (x a : α)
    (hi : l[i]? = some a) (h : f x = f a) : (l.set i x).map f = l.map f := by
  obtain ⟨hil, rfl⟩ := List.getElem?_eq_some_iff.1 hi
  rw [← List.set_getElem_self hil, List.set_set, List.map_set, List.map_set, h]

theorem perm_set_swap {α : Type} (l : List α) (x : α) (i : Nat) (hi : i < l.length) :
    (l.set i x ++ [l[i]]).Perm (l ++ [x]) := by
  have := List.set_set_perm (as := l ++ [x]) (i := i) (j := l.length) (by simp; omega) (by simp)
  simpa [List.set_append, hi, List.getElem_append_left hi] using this

theorem nodup_concat {α : Type} (l : List α) (x : α) : (l ++ [x]).Nodup ↔ l.Nodup ∧ x ∉ l := by
  rw [(List.perm_append_singleton x l).nodup_iff, List.nodup_cons, and_comm]

theorem mem_concat_cases {α : Type} {l : List α} {x e : α} (h : e ∈ l ++ [x]) : e ∈ l ∨ e = x := by
  simpa using h

theorem exists_eq_append_pair {α : Type} (l : List α) (h : 2 ≤ l.length) :
    ∃ pre a b, l = pre ++ [a, b] := by
  rcases List.eq_nil_or_concat l with rfl | ⟨l1, b, rfl⟩
  · cases h
  · rcases List.eq_nil_or_concat l1 with rfl | ⟨pre, a, rfl⟩
    · cases Nat.le_of_succ_le_succ h
    · exact ⟨pre, a, b, by simp⟩

namespace Task

/-- a log `ds` whose keys only improve (a later key is `le` every earlier one), with `x` `le` all of them: `BestInv`,
    `GInv`, `SwInv` of the task files and `logLe` / `logSorted` of the machine's `Inv` are instances -/
def Chain {α β : Type} (le : β → β → Prop) (key : α → β) (x : β) (ds : List α) : Prop :=
  (∀ d ∈ ds, le x (key d)) ∧ ds.Pairwise (fun d d' => le (key d') (key d))

theorem Chain.mono {α β : Type} {le : β → β → Prop} {key : α → β} {x x' : β} {ds : List α}
    (ht : ∀ {a b c}, le a b → le b c → le a c) (h : Chain le key x ds) (hx : le x' x) : Chain le key x' ds :=
  ⟨fun d hd => ht hx (h.1 d hd), h.2⟩

theorem Chain.push {α β : Type} {le : β → β → Prop} {key : α → β} {x : β} {ds : List α}
    (hr : ∀ a, le a a) (h : Chain le key x ds) (d : α) (hd : key d = x) : Chain le key x (ds ++ [d]) := by
  subst hd
  refine ⟨List.forall_mem_append.mpr ⟨h.1, List.forall_mem_singleton.mpr (hr _)⟩,
    List.pairwise_append.mpr ⟨h.2, List.pairwise_singleton _ _, fun a ha b hb => ?_⟩⟩
  rw [List.mem_singleton.mp hb]; exact h.1 a ha

end Task

theorem getElem!_mem_of_lt {α : Type} [Inhabited α] {l : List α} {d : Nat} (h : d < l.length) : l[d]! ∈ l := by
  rw [getElem!_pos l d h]; exact List.getElem_mem h

theorem getElem?_set_cases {α : Type} {l : List α} {w i : Nat} {t a : α} (h : (l.set w t)[i]? = some a) :
    (i = w ∧ a = t) ∨ (i ≠ w ∧ l[i]? = some a) := by
  by_cases hi : w = i
  · subst hi
    rw [List.getElem?_set_self'] at h
    cases hl : l[w]? with
    | none => rw [hl] at h; cases h
    | some _ => rw [hl] at h; exact Or.inl ⟨rfl, (Option.some.inj h).symm⟩
  · rw [List.getElem?_set_ne hi] at h; exact Or.inr ⟨fun e => hi e.symm, h⟩

theorem pairwise_getElem? {α : Type} {R : α → α → Prop} (hsym : ∀ a b, R a b → R b a) {l : List α} (h : l.Pairwise R) :
    ∀ (i j : Nat) (a b : α), i ≠ j → l[i]? = some a → l[j]? = some b → R a b := by
  intro i j a b hij ha hb
  obtain ⟨hi, rfl⟩ := List.getElem?_eq_some_iff.1 ha
  obtain ⟨hj, rfl⟩ := List.getElem?_eq_some_iff.1 hb
  rcases Nat.lt_or_gt_of_ne hij with hlt | hlt
  · exact List.pairwise_iff_getElem.1 h i j hi hj hlt
  · exact hsym _ _ (List.pairwise_iff_getElem.1 h j i hj hi hlt)

end Opy
