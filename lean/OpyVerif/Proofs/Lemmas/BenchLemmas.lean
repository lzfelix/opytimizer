import Mathlib.Analysis.Real.Pi.Bounds
import OpyVerif.Proofs.RealElemB
import OpyVerif.Proofs.Lemmas.ListSum
import OpyVerif.Model.Bench
/-!
Helpers for C17: the folds and integer powers of `Model/Bench.lean` at `ℝ` and the elementary
real-number facts (one per benchmark function) on which the bounds of `Proofs/C17.lean` rest.
The bounds on sums of mapped lists are in `Lemmas/ListSum.lean`.
-/
namespace Opy
open RealElem -- the unfolding lemmas of `Proofs/RealElemB.lean`

theorem prodL_eq_prod (xs : List ℝ) : prodL xs = xs.prod := by
  unfold prodL
  simp only [mul_def, ofNat'_def, Nat.cast_one]
  exact List.prod_eq_foldl.symm

@[simp] theorem pw2_real (v : ℝ) : pw2 v = v ^ 2 := by simp only [pw2, mul_def]; ring
@[simp] theorem pw3_real (v : ℝ) : pw3 v = v ^ 3 := by simp only [pw3, mul_def]; ring
@[simp] theorem pw4_real (v : ℝ) : pw4 v = v ^ 4 := by simp only [pw4, mul_def]; ring
@[simp] theorem pw5_real (v : ℝ) : pw5 v = v ^ 5 := by simp only [pw5, mul_def]; ring
@[simp] theorem pw6_real (v : ℝ) : pw6 v = v ^ 6 := by simp only [pw6, mul_def]; ring

/-- a decimal literal is a cast from `ℚ≥0` -/
theorem sci_nonneg {m : ℕ} {s : Bool} {e : ℕ} : (0 : ℝ) ≤ OfScientific.ofScientific m s e :=
  NNRat.cast_nonneg _

theorem sin_pow_six_le_one (t : ℝ) : Real.sin t ^ 6 ≤ 1 :=
  (Even.pow_abs ⟨3, rfl⟩ _).ge.trans (pow_le_one₀ (abs_nonneg _) (Real.abs_sin_le_one t))

theorem sin_pow_six_nonneg (t : ℝ) : 0 ≤ Real.sin t ^ 6 := by positivity

/-- `deb1` and `deb2` are this mean of `sin⁶ ∘ g`, for `g v = 5πv` and `g v = 5π(v^(3/4) − 0.05)` -/
theorem neg_mean_sin_pow_six_ge (g : ℝ → ℝ) (x : List ℝ) (hn : 1 ≤ x.length) :
    -1 ≤ -1 / (x.length : ℝ) * (x.map fun v => Real.sin (g v) ^ 6).sum := by
  rw [neg_div, neg_mul]
  exact neg_le_neg (mean_map_le _ 1 x hn fun v _ => sin_pow_six_le_one _)

theorem neg_mean_sin_pow_six_replicate (g : ℝ → ℝ) (n : ℕ) (hn : 1 ≤ n) (a : ℝ)
    (ha : g a = Real.pi / 2) :
    -1 / ((List.replicate n a).length : ℝ) * ((List.replicate n a).map fun v => Real.sin (g v) ^ 6).sum
      = -1 := by
  have hne : (n : ℝ) ≠ 0 := Nat.cast_ne_zero.mpr (Nat.pos_iff_ne_zero.mp hn)
  rw [sum_map_replicate, ha, Real.sin_pi_div_two, List.length_replicate]
  field_simp

theorem two_add_sin_pos (t : ℝ) : 0 < 2 + Real.sin t :=
  neg_lt_iff_pos_add'.mp (lt_of_lt_of_le (by norm_num) (Real.neg_one_le_sin t))

theorem rastringin_term_ge (v : ℝ) : -10 ≤ v ^ 2 - 10 * Real.cos (2 * Real.pi * v) :=
  neg_le_sub_iff_le_add.mpr ((mul_le_of_le_one_right (by norm_num) (Real.cos_le_one _)).trans
    (le_add_of_nonneg_left (sq_nonneg v)))

theorem cos_five_pi : Real.cos (5 * Real.pi) = -1 :=
  (Real.cos_nat_mul_pi 5).trans (Odd.neg_one_pow ⟨2, rfl⟩)

/-- one coordinate of Styblinski–Tang; the true minimum is ≈ −78.33233 -/
theorem styblinski_term_ge (v : ℝ) : -78.4 ≤ v ^ 4 - 16 * v ^ 2 + 5 * v := by
  -- the square completed in `v²`, then in `v`
  have e : v ^ 4 - 16 * v ^ 2 + 5 * v
      = (v ^ 2 - 8.43) ^ 2 + 0.86 * (v + 125 / 43) ^ 2 + 29093 / 430000 + -78.4 := by ring
  rw [e]
  exact le_add_of_nonneg_left (by positivity)

/-- near `5π/2`, the maximum of the sine closest to 7.917: `sin x = cos (x − 5π/2) ≥ 1 − d² / 2` -/
theorem sin_near_top {x d : ℝ} (h1 : x - d ≤ 5 / 2 * Real.pi) (h2 : 5 / 2 * Real.pi ≤ x + d) :
    1 - d ^ 2 / 2 ≤ Real.sin x := by
  rw [← Real.cos_sub_pi_div_two, ← Real.cos_sub_two_pi,
    show x - Real.pi / 2 - 2 * Real.pi = x - 5 / 2 * Real.pi by ring]
  exact (sub_le_sub_left (div_le_div_of_nonneg_right
    (sq_le_sq' (neg_le_sub_iff_le_add.mpr h2) (sub_le_comm.mp h1)) zero_le_two) 1).trans
    Real.one_sub_sq_div_two_le_cos

theorem sin_7917_gt : 0.99801 < Real.sin 7.917 :=
  -- `7.917 - 5π/2 ≈ 0.063018`, and `1 - 0.06303² / 2 ≈ 0.998014`
  -- the two sides from `3.141592 < π < 3.15`, each scaled by `5 / 2`
  lt_of_lt_of_le (by norm_num) (sin_near_top (d := 0.06303)
    ((show (7.917 - 0.06303 : ℝ) ≤ 5 / 2 * 3.141592 by norm_num).trans
      (mul_le_mul_of_nonneg_left Real.pi_gt_d6.le (by norm_num)))
    ((mul_le_mul_of_nonneg_left Real.pi_lt_d2.le (by norm_num)).trans
      (show (5 / 2 * 3.15 : ℝ) ≤ 7.917 + 0.06303 by norm_num)))

theorem sqrt_7917_ge : 2.8137 ≤ √(7.917 : ℝ) := by
  apply Real.le_sqrt_of_sq_le
  norm_num

/-- 2.808 is the documented optimum of `alpine2` per coordinate (C17) -/
theorem alpine2_term_gt : 2.808 < √(7.917 : ℝ) * Real.sin 7.917 :=
  lt_of_lt_of_le (by norm_num)
    (mul_le_mul sqrt_7917_ge sin_7917_gt.le sci_nonneg (Real.sqrt_nonneg _))

end Opy
