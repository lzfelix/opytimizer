import OpyVerif.Model.Tree
/-!
What the specification functions of `PNode` and the executable well-formedness twins do on `nil` and on a node,
the pre-order loop, and what right links (`Linked`, `KidsLinked`) say about the listed nodes.  Core Lean only.
Defines: `kidOn`.
-/
namespace Opy
namespace PNode

theorem isNil_iff (t : PNode) : t.isNil = true ↔ t = nil := by cases t <;> simp [isNil]

theorem isNil_eq_false_iff (t : PNode) : t.isNil = false ↔ t ≠ nil := by cases t <;> simp [isNil]

theorem maxD_mk (i lb p f) (l r : PNode) :
    (mk i lb p f l r).maxD = if l = nil ∧ r = nil then 0 else 1 + max l.maxD r.maxD := by
  cases l <;> cases r <;> rfl

theorem maxD_mk_le (i lb p f) (l r : PNode) : (mk i lb p f l r).maxD ≤ 1 + max l.maxD r.maxD := by
  rw [maxD_mk]; split
  · exact Nat.zero_le _
  · exact Nat.le_refl _

theorem leaves_mk (i lb p f) (l r : PNode) :
    (mk i lb p f l r).leaves = if l = nil ∧ r = nil then 1 else l.leaves + r.leaves := by
  cases l <;> cases r <;> rfl

theorem minD_mk (i lb p f) (l r : PNode) :
    (mk i lb p f l r).minD =
      if l = nil then (if r = nil then 0 else 1 + r.minD)
      else if r = nil then 1 + l.minD else 1 + min l.minD r.minD := by
  cases l <;> cases r <;> rfl

theorem pre_mk (i lb p f l r) :
    (mk i lb p f l r).pre = mk i lb p f l r :: (l.pre ++ r.pre) := rfl

theorem mem_pre_mk {n : PNode} {i lb p f l r} :
    n ∈ (mk i lb p f l r).pre ↔ n = mk i lb p f l r ∨ n ∈ l.pre ∨ n ∈ r.pre := by
  simp [pre_mk]

theorem mem_pre_ne_nil : ∀ (t n : PNode), n ∈ t.pre → n ≠ nil := by
  intro t
  induction t with
  | nil => intro n h; simp [pre] at h
  | mk i lb p f l r ihl ihr =>
    intro n h
    rcases mem_pre_mk.1 h with h | h | h
    · subst h; simp
    · exact ihl n h
    · exact ihr n h

theorem self_mem_pre {t : PNode} (h : t ≠ nil) : t ∈ t.pre := by
  cases t with
  | nil => exact absurd rfl h
  | mk => simp [pre_mk]

theorem pre_head (t : PNode) (h : t ≠ nil) : t.pre[0]? = some t := by
  cases t with
  | nil => exact absurd rfl h
  | mk => rfl

theorem pre_length (t : PNode) : t.pre.length = t.size := by
  induction t with
  | nil => rfl
  | mk i lb p f l r ihl ihr => simp [pre_mk, size, ihl, ihr]; omega

theorem size_pos {t : PNode} (h : t ≠ nil) : 0 < t.size := by
  cases t with
  | nil => exact absurd rfl h
  | mk => exact Nat.add_pos_left (Nat.add_pos_left Nat.one_pos _) _

theorem size_lt_two_pow_maxD (t : PNode) : t.size < 2 ^ (t.maxD + 1) := by
  induction t with
  | nil => decide
  | mk i lb p f l r ihl ihr =>
    rw [maxD_mk]
    by_cases h : l = nil ∧ r = nil
    · rw [if_pos h, h.1, h.2]; exact (by decide : 1 < 2)
    · rw [if_neg h]
      show 1 + l.size + r.size < 2 ^ (1 + max l.maxD r.maxD + 1)
      rw [Nat.add_comm 1 l.size, Nat.add_comm 1 (max _ _), Nat.pow_succ, Nat.mul_two]
      exact Nat.add_le_add
        (Nat.le_trans ihl (Nat.pow_le_pow_right (by decide) (Nat.succ_le_succ (Nat.le_max_left ..))))
        (Nat.le_trans ihr (Nat.pow_le_pow_right (by decide) (Nat.succ_le_succ (Nat.le_max_right ..))))

theorem pre_map_id? (t : PNode) : t.pre.map id? = t.ids.map some := by
  induction t with
  | nil => rfl
  | mk i lb p f l r ihl ihr => simp [pre_mk, ids, id?, ihl, ihr]

theorem mem_ids_iff {i : Nat} {t : PNode} : i ∈ t.ids ↔ ∃ n ∈ t.pre, n.id? = some i := by
  rw [← List.mem_map, pre_map_id?, List.mem_map]; simp

theorem id_mem_ids_of_mem_pre {n t : PNode} {i : Nat} (hn : n ∈ t.pre) (h : n.id? = some i) :
    i ∈ t.ids := mem_ids_iff.2 ⟨n, hn, h⟩

theorem exists_id_of_ne_nil {t : PNode} (h : t ≠ nil) : ∃ i, t.id? = some i := by
  cases t with
  | nil => exact absurd rfl h
  | mk i lb p f l r => exact ⟨i, rfl⟩

theorem id?_mem_ids {t : PNode} {i : Nat} (h : t.id? = some i) : i ∈ t.ids := by
  cases t with
  | nil => simp [id?] at h
  | mk j lb p f l r => simp [id?] at h; simp [ids, h]

theorem nodup_mk {i lb p f} {l r : PNode} (h : (mk i lb p f l r).ids.Nodup) :
    i ∉ l.ids ∧ i ∉ r.ids ∧ l.ids.Nodup ∧ r.ids.Nodup ∧ ∀ x ∈ l.ids, x ∉ r.ids := by
  simp only [ids, List.nodup_cons, List.nodup_append, List.mem_append, not_or] at h
  obtain ⟨⟨h1, h2⟩, hl, hr, hd⟩ := h
  exact ⟨h1, h2, hl, hr, fun x hx hx' => hd x hx x hx' rfl⟩

theorem pre_map_id?_nodup {t : PNode} (h : t.ids.Nodup) : (t.pre.map id?).Nodup := by
  rw [pre_map_id?]
  exact List.Pairwise.map some (fun a b hab h => hab (Option.some.inj h)) h

theorem lookup_nil (i : Nat) : lookup i nil = none := rfl

theorem lookup_mk (k i lb p f l r) :
    lookup k (mk i lb p f l r) =
      if i = k then some (mk i lb p f l r) else (lookup k l).or (lookup k r) := by
  unfold lookup
  rw [pre_mk, List.find?_cons, List.find?_append]
  by_cases h : i = k
  · have : ((mk i lb p f l r).id? == some k) = true := by simp [id?, h]
    rw [this]; simp [h]
  · have : ((mk i lb p f l r).id? == some k) = false := by simp [id?, h]
    rw [this]; simp [h]

theorem lookup_eq_none_iff {k : Nat} {t : PNode} : lookup k t = none ↔ k ∉ t.ids := by
  unfold lookup
  rw [List.find?_eq_none, mem_ids_iff]
  constructor
  · rintro h ⟨n, hn, e⟩; exact h n hn (by simp [e])
  · intro h n hn e; exact h ⟨n, hn, by simpa using e⟩

theorem lookup_some {k : Nat} {t n : PNode} (h : lookup k t = some n) :
    n ∈ t.pre ∧ n.id? = some k := by
  unfold lookup at h
  exact ⟨List.mem_of_find?_eq_some h, by simpa using List.find?_some h⟩

theorem lookup_eq_some_of_mem_pre (t : PNode) (h : t.ids.Nodup) (n : PNode) (hn : n ∈ t.pre) (i : Nat)
    (hi : n.id? = some i) : lookup i t = some n := by
  induction t with
  | nil => cases hn
  | mk j lb p f l r ihl ihr =>
    obtain ⟨hjl, hjr, hl, hr, hd⟩ := nodup_mk h
    rw [lookup_mk]
    rcases mem_pre_mk.1 hn with rfl | e | e
    · rw [if_pos (Option.some.inj hi)]
    · have hil := id_mem_ids_of_mem_pre e hi
      rw [if_neg (fun c : j = i => hjl (c ▸ hil)), ihl hl e]; rfl
    · have hir := id_mem_ids_of_mem_pre e hi
      rw [if_neg (fun c : j = i => hjr (c ▸ hir)), lookup_eq_none_iff.2 (fun hx => hd i hx hir),
        ihr hr e]; rfl

/-- a property that passes from a node to its two children holds of every node listed by `pre` -/
theorem of_mem_pre {P : PNode → Prop} (down : ∀ i lb p f l r, P (mk i lb p f l r) → P l ∧ P r)
    {n t : PNode} (hn : n ∈ t.pre) (h : P t) : P n := by
  induction t with
  | nil => cases hn
  | mk i lb p f l r ihl ihr =>
    rcases mem_pre_mk.1 hn with e | e | e
    · exact e ▸ h
    · exact ihl e (down _ _ _ _ _ _ h).1
    · exact ihr e (down _ _ _ _ _ _ h).2

theorem mem_pre_trans {x n t : PNode} (hn : n ∈ t.pre) (hx : x ∈ n.pre) : x ∈ t.pre :=
  of_mem_pre (P := fun n => ∀ x ∈ n.pre, x ∈ t.pre)
    (fun _ _ _ _ _ _ h => ⟨fun x hx => h x (mem_pre_mk.2 (Or.inr (Or.inl hx))),
      fun x hx => h x (mem_pre_mk.2 (Or.inr (Or.inr hx)))⟩) hn (fun _ h => h) x hx

/-- the child of `m` on side `s` (`true` = left) -/
def kidOn (m : PNode) (s : Bool) : PNode := if s then m.leftOf else m.rightOf

theorem kidOn_mem_pre {m : PNode} {s : Bool} (h : kidOn m s ≠ nil) : kidOn m s ∈ m.pre := by
  cases m with
  | nil => cases s <;> exact absurd rfl h
  | mk i lb p f l r =>
    cases s
    · exact mem_pre_mk.2 (Or.inr (Or.inr (self_mem_pre h)))
    · exact mem_pre_mk.2 (Or.inr (Or.inl (self_mem_pre h)))

theorem mem_pre_edge : ∀ t : PNode, ∀ n ∈ t.pre, n = t ∨ ∃ m ∈ t.pre, ∃ s, kidOn m s = n := by
  intro t
  induction t with
  | nil => intro n hn; cases hn
  | mk i lb p f l r ihl ihr =>
    intro n hn
    rcases mem_pre_mk.1 hn with e | e | e
    · exact Or.inl e
    · right
      rcases ihl n e with rfl | ⟨m, hm, h⟩
      · exact ⟨_, mem_pre_mk.2 (Or.inl rfl), true, rfl⟩
      · exact ⟨m, mem_pre_mk.2 (Or.inr (Or.inl hm)), h⟩
    · right
      rcases ihr n e with rfl | ⟨m, hm, h⟩
      · exact ⟨_, mem_pre_mk.2 (Or.inl rfl), false, rfl⟩
      · exact ⟨m, mem_pre_mk.2 (Or.inr (Or.inr hm)), h⟩

theorem linked_root {p : Option Nat} {f : Bool} {t : PNode} (h : Linked p f t) :
    KidsLinked t ∧ (t ≠ nil → t.storedPar = p ∧ t.storedFlag = f) := by
  cases t with
  | nil => exact ⟨trivial, fun hn => absurd rfl hn⟩
  | mk i lb par flag l r => exact ⟨⟨h.2.2.1, h.2.2.2⟩, fun _ => ⟨h.1, h.2.1⟩⟩

theorem kidsLinked_kidOn {m : PNode} (h : KidsLinked m) (s : Bool) :
    Linked m.id? s (kidOn m s) := by
  cases m with
  | nil => cases s <;> trivial
  | mk i lb p f l r =>
    cases s
    · exact h.2
    · exact h.1

theorem kidsLinked_of_mem_pre {n t : PNode} (hn : n ∈ t.pre) (h : KidsLinked t) : KidsLinked n :=
  of_mem_pre (P := KidsLinked) (fun _ _ _ _ _ _ h => ⟨(linked_root h.1).1, (linked_root h.2).1⟩) hn h

theorem stored_edge {t : PNode} (hk : KidsLinked t) {n : PNode} (hn : n ∈ t.pre) :
    n = t ∨ ∃ m ∈ t.pre, n.storedPar = m.id? ∧ kidOn m n.storedFlag = n := by
  refine (mem_pre_edge t n hn).imp_right fun ⟨m, hm, s, e⟩ => ?_
  obtain ⟨hp, hf⟩ := (linked_root (kidsLinked_kidOn (kidsLinked_of_mem_pre hm hk) s)).2
    (e ▸ mem_pre_ne_nil _ _ hn)
  rw [e] at hp hf
  exact ⟨m, hm, hp, hf ▸ e⟩

/-- the `if` is the loop's "push unless `None`" -/
theorem preLoop_sub : ∀ (t : PNode) (fuel : Nat) (st acc : List PNode),
    preLoop (fuel + t.size) (if t.isNil then st else t :: st) acc = preLoop fuel st (acc ++ t.pre) := by
  intro t
  induction t with
  | nil => intro fuel st acc; simp [size, pre, isNil]
  | mk i lb p f l r ihl ihr =>
    intro fuel st acc
    have e : fuel + (mk i lb p f l r).size = (fuel + r.size + l.size) + 1 := by simp [size]; omega
    rw [e]
    show preLoop (fuel + r.size + l.size)
      (if l.isNil then (if r.isNil then st else r :: st) else l :: (if r.isNil then st else r :: st))
      (acc ++ [mk i lb p f l r]) = _
    rw [ihl, ihr, pre_mk, List.append_assoc, List.append_assoc]; rfl

theorem preOrder_eq (t : PNode) : t.preOrder = t.pre := by
  cases t with
  | nil => rfl
  | mk i lb p f l r =>
    have := preLoop_sub (mk i lb p f l r) 0 [] []
    simpa [preOrder, preLoop, isNil] using this

theorem linkedB_sound : ∀ (t : PNode) (p : Option Nat) (f : Bool),
    linkedB p f t = true → Linked p f t := by
  intro t
  induction t with
  | nil => intro p f _; trivial
  | mk i lb par flag l r ihl ihr =>
    intro p f h
    simp only [linkedB, Bool.and_eq_true, beq_iff_eq] at h
    exact ⟨h.1.1.1, h.1.1.2, ihl _ _ h.1.2, ihr _ _ h.2⟩

theorem kidsLinkedB_sound (t : PNode) (h : kidsLinkedB t = true) : KidsLinked t := by
  cases t with
  | nil => trivial
  | mk i lb par flag l r =>
    simp only [kidsLinkedB, Bool.and_eq_true] at h
    exact ⟨linkedB_sound _ _ _ h.1, linkedB_sound _ _ _ h.2⟩

theorem arityB_sound (ar : Nat → Nat) : ∀ (t : PNode), arityB ar t = true → Arity ar t := by
  intro t
  induction t with
  | nil => intro _; trivial
  | mk i lb par flag l r ihl ihr =>
    intro h
    simp only [arityB, Bool.and_eq_true] at h
    refine ⟨?_, ihl h.1.2, ihr h.2⟩
    have h0 := h.1.1
    by_cases h1 : lb.isTerm = true
    · simpa [h1, isNil_iff] using h0
    · by_cases h2 : ar lb.name = 1
      · simpa [h1, h2, isNil_iff, isNil_eq_false_iff] using h0
      · by_cases h3 : ar lb.name = 2
        · simpa [h1, h2, h3, isNil_iff, isNil_eq_false_iff] using h0
        · simp [h1, h2, h3] at h0

theorem nodupB_sound : ∀ (xs : List Nat), nodupB xs = true → xs.Nodup := by
  intro xs
  induction xs with
  | nil => intro _; exact List.nodup_nil
  | cons x xs ih =>
    intro h
    simp only [nodupB, Bool.and_eq_true, Bool.not_eq_true', List.contains_eq_mem,
      decide_eq_false_iff_not] at h
    exact List.nodup_cons.2 ⟨h.1, ih h.2⟩

theorem WF.nodup {ar : Nat → Nat} {t : PNode} (h : WF ar t) : t.ids.Nodup := h.2.2.2.2

theorem wfB_sound (ar : Nat → Nat) (t : PNode) (h : wfB ar t = true) : WF ar t := by
  simp only [wfB, Bool.and_eq_true, Bool.not_eq_true', beq_iff_eq] at h
  obtain ⟨⟨⟨⟨h1, h2⟩, h3⟩, h4⟩, h5⟩ := h
  exact ⟨(isNil_eq_false_iff t).1 h1, h2, kidsLinkedB_sound t h3, arityB_sound ar t h4,
    nodupB_sound _ h5⟩

end PNode
end Opy
