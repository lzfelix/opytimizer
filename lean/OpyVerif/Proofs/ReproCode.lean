import OpyVerif.Proofs.ReproProg
import OpyVerif.Proofs.C09repro
import OpyVerif.Generated.Repro
/-!
C09 (reproduction clause) about the *translated* `GP._reproduction`: `Gen.reproLoop` is what the translator read
from the current working tree.
-/
namespace Opy
open PNode

/-- the translated method is the model's `reproduction`, for every population, fitness list and tournament outcome -/
theorem code_reproduction {α β : Type} (cpT : α → α) (cpA : β → β)
    (trees : List α) (agents : List β) (fit : List Int) (selected : List Nat) :
    Gen.reproLoop.run cpT cpA trees agents fit selected = some (reproduction cpT cpA trees agents fit selected) := by
  rw [Gen.reproLoop_eq]; exact reproLoop_is_reproduction cpT cpA trees agents fit selected

/-- … so it keeps the population sizes … -/
theorem code_reproduction_lengths {α β : Type} (cpT : α → α) (cpA : β → β)
    (trees : List α) (agents : List β) (fit : List Int) (selected : List Nat) :
    ∃ r, Gen.reproLoop.run cpT cpA trees agents fit selected = some r ∧
      r.1.length = trees.length ∧ r.2.1.length = agents.length := by
  have h := reproduction_lengths cpT cpA trees agents fit selected
  exact ⟨_, code_reproduction cpT cpA trees agents fit selected, h.1, h.2.1⟩

/-- … and tree `i` and agent `i` stay paired (copies keep the pairing tag) -/
theorem code_reproduction_paired {α β τ : Type} (cpT : α → α) (cpA : β → β) (tag : α → τ) (tag' : β → τ)
    (hT : ∀ t, tag (cpT t) = tag t) (hA : ∀ a, tag' (cpA a) = tag' a)
    (trees : List α) (agents : List β) (fit : List Int) (selected : List Nat)
    (h : ∀ i : Nat, (trees[i]?).map tag = (agents[i]?).map tag') :
    ∃ r, Gen.reproLoop.run cpT cpA trees agents fit selected = some r ∧
      ∀ i : Nat, (r.1[i]?).map tag = (r.2.1[i]?).map tag' :=
  ⟨_, code_reproduction cpT cpA trees agents fit selected,
    reproduction_paired cpT cpA tag tag' hT hA trees agents fit selected h⟩

end Opy
