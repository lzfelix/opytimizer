import OpyVerif.Proofs.PersistProg
import OpyVerif.Generated.Persist
/-!
C19 (save / load clause) about the *translated* `History.save` / `History.load`.
-/
namespace Opy

/-- `save(name)` then `load(name)` returns what was saved, for every file system state and every name -/
theorem code_load_after_save {α : Type} (fs : FS α) (name : String) (a : α) :
    ∃ fs', Gen.saveProg.run fs name a = some fs' ∧ Gen.loadProg.run fs' name = some a := by
  rw [Gen.saveProg_eq, Gen.loadProg_eq]
  exact ⟨_, saveProg_run fs name a, by rw [loadProg_run, FS.read_write, if_pos rfl]⟩

/-- histories saved side by side under different names do not disturb one another -/
theorem code_load_after_two_saves {α : Type} (fs : FS α) (n1 n2 : String) (a b : α) (h : n1 ≠ n2) :
    ∃ fs1 fs2, Gen.saveProg.run fs n1 a = some fs1 ∧ Gen.saveProg.run fs1 n2 b = some fs2 ∧
      Gen.loadProg.run fs2 n1 = some a ∧ Gen.loadProg.run fs2 n2 = some b := by
  rw [Gen.saveProg_eq, Gen.loadProg_eq]; exact load_after_two_saves fs n1 n2 a b h

/-- … for any number of saves: `load(name)` is the last thing saved under exactly that name -/
theorem code_load_after_saves {α : Type} (fs : FS α) (name : String) (saves : List (String × α)) :
    Gen.loadProg.run (saveAll fs saves) name = (lastSaved name saves).or (fs.read name) := by
  rw [Gen.loadProg_eq, loadProg_run]; exact read_saveAll name saves fs

end Opy
