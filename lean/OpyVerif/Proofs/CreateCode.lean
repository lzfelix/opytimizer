import OpyVerif.Proofs.CreateProg
import OpyVerif.Generated.Create
/-!
C07 / C06 (construction clauses) about the *translated* `Space._create_agents` and `Space._build`.
-/
namespace Opy

/-- whatever `n_agents`, `n_variables`, `n_dimensions`: the population `_create_agents` (as read from the current source)
    returns has exactly `n_agents` agents of the declared shape, pairwise distinct objects, and a best agent that is a
    further object of the same shape -/
theorem code_create_agents (n v d next : Nat) (ags : List AgentObj) (best : AgentObj)
    (h : Gen.createProg.run n v d next = some (ags, best)) :
    ags.length = n ∧ (ags.map (·.id)).Nodup ∧ best.id ∉ ags.map (·.id) ∧
      (∀ a ∈ ags, a.nVars = v ∧ a.nDims = d) ∧ best.nVars = v ∧ best.nDims = d := by
  rw [Gen.createProg_eq] at h
  obtain ⟨a, b, c, e, f, g, _, _⟩ := createProg_spec n v d next ags best h
  exact ⟨a, b, c, e, f, g⟩

/-- … and it returns for every population size the guards accept (`n_agents > 0`) -/
theorem code_create_agents_total (n v d next : Nat) (hn : 0 < n) : (Gen.createProg.run n v d next).isSome := by
  rw [Gen.createProg_eq, createProg_run, if_neg (Nat.pos_iff_ne_zero.1 hn)]; rfl

/-- `_build` installs exactly that population (and the bounds handed in) before the space calls itself built -/
theorem code_build_wellFormed : Gen.buildProg.wellFormed = true := by
  rw [Gen.buildProg_eq]; decide

end Opy
