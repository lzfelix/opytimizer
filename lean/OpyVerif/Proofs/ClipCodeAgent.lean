import OpyVerif.Proofs.ClipProg
import OpyVerif.Generated.ClipLoops.agentClip_eq
/-!
C01 / C06 / C13 stated about the *translated* `Agent.check_limits`: `Gen.agentClip` is what
`harness/translate_loops.py` read from the current working tree.  Each theorem composes the regenerated
equality (`Generated/ClipLoops/agentClip_eq.lean`), the meaning of the expected loop (`Proofs/ClipProg.lean`)
and the projection theorems of `Proofs/C06.lean`.
-/
namespace Opy

theorem code_agentClip (lbs ubs : List Int) (p : Pos) : Gen.agentClip.runPos lbs ubs p = clipPos lbs ubs p := by
  rw [Gen.agentClip_eq]; exact agentClip_run lbs ubs p

/-- `Agent.check_limits` (as translated) leaves the position inside the agent's box, whatever it was -/
theorem code_agentClip_inBox (lbs ubs : List Int) (p : Pos) (hb : BoundsOk lbs ubs) (hl : p.length = lbs.length) :
    InBox lbs ubs (Gen.agentClip.runPos lbs ubs p) := by
  rw [code_agentClip]; exact clipPos_inBox lbs ubs p hb hl.symm

/-- … changes nothing that is already inside (bit-identical through the key embedding) … -/
theorem code_agentClip_fixed (lbs ubs : List Int) (p : Pos) (h : InBox lbs ubs p) :
    Gen.agentClip.runPos lbs ubs p = p := by
  rw [code_agentClip]; exact clipPos_fixed lbs ubs p h

/-- … and is idempotent -/
theorem code_agentClip_idem (lbs ubs : List Int) (p : Pos) (hb : BoundsOk lbs ubs) (hl : p.length = lbs.length) :
    Gen.agentClip.runPos lbs ubs (Gen.agentClip.runPos lbs ubs p) = Gen.agentClip.runPos lbs ubs p := by
  rw [code_agentClip, code_agentClip]; exact clipPos_idem lbs ubs p hb hl.symm

end Opy
