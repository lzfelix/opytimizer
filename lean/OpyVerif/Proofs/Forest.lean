import OpyVerif.Proofs.C08ops
import OpyVerif.Proofs.C08grow
import OpyVerif.Model.Pop
/-!
C08 at the level of the whole population: the forest of a GP run stays a family of proper expression trees that share
no node, under **every** sequence of reproduction, mutation and crossover steps (each working on deep copies, as the
code does), for every choice of slots, points, grown branches and copies.  Identities model object identity; a deep
copy is `shift k` onto identities nobody uses yet (`next` is the allocator's high-water mark).
The file holds `PopOK` (a proper population), `GPOp.admissible`, `Steps` (a population reached by admissible steps) with its one
invariant theorem `Steps.inv`, and the `growMany_*` theorems about the initial forest.
-/
namespace Opy
open PNode

/-- no shared node: the hypothesis `∀ x ∈ a.ids, x ∉ b.ids` of the C08 operator theorems, to which it unfolds -/
def Disj (a b : PNode) : Prop := ∀ x ∈ a.ids, x ∉ b.ids

theorem Disj.symm {a b : PNode} (h : Disj a b) : Disj b a := fun x hx hx' => h x hx' hx

/-- four clauses, in this order: every tree is a proper expression tree; identities are below the high-water mark; no two
    slots share a node; the best tree is `nil`, or proper, below the mark and disjoint from every slot -/
def PopOK (ar : Nat → Nat) (P : Pop) : Prop :=
  (∀ t ∈ P.trees, WF ar t) ∧ (∀ t ∈ P.trees, ∀ x ∈ t.ids, x < P.next) ∧
  (∀ (i j : Nat) (a b : PNode), i ≠ j → P.trees[i]? = some a → P.trees[j]? = some b → Disj a b) ∧
  (P.best = nil ∨ (WF ar P.best ∧ (∀ x ∈ P.best.ids, x < P.next) ∧ ∀ t ∈ P.trees, Disj P.best t))

/-- a grown branch is admissible when it is a proper tree on identities nobody uses (beyond the copies the step makes) -/
def GPOp.admissible (ar : Nat → Nat) (P : Pop) : GPOp → Prop
  | .reproduce _ _ => True
  | .recordBest _ => True
  | .mutate _ _ branch => WF ar branch ∧ ∀ x ∈ branch.ids, 2 * P.next ≤ x ∧ x < 3 * P.next
  | .cross _ _ _ _ => True
  | .regrow _ tree => WF ar tree ∧ ∀ x ∈ tree.ids, 2 * P.next ≤ x ∧ x < 3 * P.next

theorem shift_ids_range {t : PNode} {k n : Nat} (h : ∀ x ∈ t.ids, x < n) :
    ∀ x ∈ (shift k t).ids, k ≤ x ∧ x < k + n := by
  intro x hx
  rw [shift_ids, List.mem_map] at hx
  obtain ⟨y, hy, rfl⟩ := hx
  exact ⟨Nat.le_add_left k y, Nat.add_comm k n ▸ Nat.add_lt_add_right (h y hy) k⟩

theorem ids_range_mono {t : PNode} {a b a' b' : Nat} (h : ∀ x ∈ t.ids, a ≤ x ∧ x < b) (ha : a' ≤ a) (hb : b ≤ b') :
    ∀ x ∈ t.ids, a' ≤ x ∧ x < b' :=
  fun x hx => ⟨Nat.le_trans ha (h x hx).1, Nat.lt_of_lt_of_le (h x hx).2 hb⟩

theorem Disj.of_lt_of_le {a b : PNode} {n : Nat} (ha : ∀ x ∈ a.ids, x < n) (hb : ∀ x ∈ b.ids, n ≤ x) : Disj a b :=
  fun x hx hx' => Nat.lt_irrefl x (Nat.lt_of_lt_of_le (ha x hx) (hb x hx'))

theorem popOK_set {ar : Nat → Nat} {P : Pop} (hP : PopOK ar P) (w : Nat) (t' : PNode) (n' : Nat) (hn : P.next ≤ n')
    (hwf : WF ar t') (hlt : ∀ x ∈ t'.ids, x < n')
    (hdis : ∀ j b, j ≠ w → P.trees[j]? = some b → Disj t' b) (hbest : Disj P.best t') :
    PopOK ar ⟨P.trees.set w t', P.best, n'⟩ := by
  obtain ⟨h1, h2, h3, h4⟩ := hP
  refine ⟨?_, ?_, ?_, ?_⟩
  · intro t ht
    rcases List.mem_or_eq_of_mem_set ht with h | rfl
    · exact h1 t h
    · exact hwf
  · intro t ht x hx
    rcases List.mem_or_eq_of_mem_set ht with h | rfl
    · exact Nat.lt_of_lt_of_le (h2 t h x hx) hn
    · exact hlt x hx
  · intro i j a b hij ha hb
    rcases getElem?_set_cases ha with ⟨rfl, rfl⟩ | ⟨hi, ha'⟩ <;> rcases getElem?_set_cases hb with ⟨rfl, rfl⟩ | ⟨hj, hb'⟩
    · exact absurd rfl hij
    · exact hdis j b hj hb'
    · exact (hdis i a hi ha').symm
    · exact h3 i j a b hij ha' hb'
  · refine h4.imp id fun ⟨b1, b2, b3⟩ => ⟨b1, fun x hx => Nat.lt_of_lt_of_le (b2 x hx) hn, fun t ht => ?_⟩
    rcases List.mem_or_eq_of_mem_set ht with h | rfl
    · exact b3 t h
    · exact hbest

theorem PopOK.disj_fresh {ar : Nat → Nat} {P : Pop} (hP : PopOK ar P) {t' : PNode} (hfr : ∀ x ∈ t'.ids, P.next ≤ x) :
    Disj P.best t' ∧ ∀ b ∈ P.trees, Disj b t' := by
  obtain ⟨_, hlt, _, hbest⟩ := hP
  refine ⟨?_, fun b hb => .of_lt_of_le (hlt b hb) hfr⟩
  rcases hbest with e | ⟨_, b2, _⟩
  · rw [e]; exact fun _ hx => nomatch hx
  · exact .of_lt_of_le b2 hfr

theorem popOK_set_fresh {ar : Nat → Nat} {P : Pop} (hP : PopOK ar P) (w : Nat) {t' : PNode} {n' : Nat} (hn : P.next ≤ n')
    (hwf : WF ar t') (hfr : ∀ x ∈ t'.ids, P.next ≤ x ∧ x < n') : PopOK ar ⟨P.trees.set w t', P.best, n'⟩ :=
  have hd := hP.disj_fresh fun x hx => (hfr x hx).1
  popOK_set hP w t' n' hn hwf (fun x hx => (hfr x hx).2) (fun _ b _ hb => (hd.2 b (List.mem_of_getElem? hb)).symm) hd.1

theorem popOK_best_fresh {ar : Nat → Nat} {P : Pop} (hP : PopOK ar P) {t' : PNode} {n' : Nat} (hn : P.next ≤ n')
    (hwf : WF ar t') (hfr : ∀ x ∈ t'.ids, P.next ≤ x ∧ x < n') : PopOK ar ⟨P.trees, t', n'⟩ :=
  have ⟨h1, h2, h3, _⟩ := hP
  ⟨h1, fun t ht x hx => Nat.lt_of_lt_of_le (h2 t ht x hx) hn, h3,
    Or.inr ⟨hwf, fun x hx => (hfr x hx).2, fun t ht => ((hP.disj_fresh fun x hx => (hfr x hx).1).2 t ht).symm⟩⟩

/-- `a = b` included: the second write then replaces the first -/
theorem popOK_set_fresh_pair {ar : Nat → Nat} {P : Pop} (hP : PopOK ar P) (a b : Nat) {f' m' : PNode} {n' : Nat}
    (hn : P.next ≤ n') (hf : WF ar f') (hm : WF ar m') (hfr : ∀ x ∈ f'.ids, P.next ≤ x ∧ x < n')
    (hmr : ∀ x ∈ m'.ids, P.next ≤ x ∧ x < n') (hd : Disj f' m') :
    PopOK ar ⟨(P.trees.set a f').set b m', P.best, n'⟩ := by
  have hdm := hP.disj_fresh fun x hx => (hmr x hx).1
  refine popOK_set (popOK_set_fresh hP a hn hf hfr) b m' n' (Nat.le_refl _) hm (fun x hx => (hmr x hx).2) ?_ hdm.1
  intro j c _ hc
  rcases getElem?_set_cases hc with ⟨_, rfl⟩ | ⟨_, hc⟩
  · exact hd.symm
  · exact (hdm.2 c (List.mem_of_getElem? hc)).symm

def GPOp.slots : GPOp → List Nat
  | .recordBest _ => []
  | .reproduce w _ => [w]
  | .mutate i _ _ => [i]
  | .cross a b _ _ => [a, b]
  | .regrow i _ => [i]

theorem apply_spec {P P' : Pop} (op : GPOp) (h : op.apply P = some P') :
    P'.next = 3 * P.next ∧ P'.trees.length = P.trees.length ∧ ∀ i, i ∉ op.slots → P'.trees[i]? = P.trees[i]? := by
  have set1 : ∀ (l : List PNode) (w : Nat) (t : PNode) (i : Nat), i ∉ [w] → (l.set w t)[i]? = l[i]? :=
    fun l w t i hi => List.getElem?_set_ne fun e => hi (List.mem_singleton.2 e.symm)
  revert h
  -- the branches of `GPOp.apply`: case1 `recordBest`, case3 `reproduce`, case6 `mutate`, case9 `cross`, case12 `regrow`;
  -- those that return `none` go by `cases h`
  fun_cases GPOp.apply P op <;> intro h <;> cases h
  case case1 => exact ⟨rfl, rfl, fun _ _ => rfl⟩
  case case3 => exact ⟨rfl, List.length_set, set1 _ _ _⟩
  case case6 => exact ⟨rfl, List.length_set, set1 _ _ _⟩
  case case9 a b _ _ _ _ _ _ f' m' _ =>
    refine ⟨rfl, List.length_set.trans List.length_set, fun i hi => ?_⟩
    have hi := not_or.1 (mt List.mem_cons.2 hi)
    exact (set1 _ b m' i hi.2).trans (List.getElem?_set_ne (Ne.symm hi.1))
  case case12 => exact ⟨rfl, List.length_set, set1 _ _ _⟩

/-- what a step writes is made of deep copies onto `[next, 2·next)` and `[2·next, 3·next)` and of an admissible grown tree
    on `[2·next, 3·next)` -/
theorem apply_popOK {ar : Nat → Nat} {P P' : Pop} (op : GPOp) (hP : PopOK ar P) (hadm : op.admissible ar P)
    (h : op.apply P = some P') : PopOK ar P' := by
  have h12 : P.next ≤ 2 * P.next := Nat.le_mul_of_pos_left _ (by decide)
  have h23 : 2 * P.next ≤ 3 * P.next := Nat.mul_le_mul_right _ (by decide)
  have hle := Nat.le_trans h12 h23
  have ⟨hwfs, hlts, _, _⟩ := hP
  have copy1 : ∀ {i t}, P.trees[i]? = some t →
      WF ar (shift P.next t) ∧ ∀ x ∈ (shift P.next t).ids, P.next ≤ x ∧ x < 2 * P.next := fun ht =>
    ⟨shift_wf (hwfs _ (List.mem_of_getElem? ht)), Nat.two_mul _ ▸ shift_ids_range (hlts _ (List.mem_of_getElem? ht))⟩
  have copy2 : ∀ {i t}, P.trees[i]? = some t →
      WF ar (shift (2 * P.next) t) ∧ ∀ x ∈ (shift (2 * P.next) t).ids, 2 * P.next ≤ x ∧ x < 3 * P.next := fun ht =>
    ⟨shift_wf (hwfs _ (List.mem_of_getElem? ht)), Nat.succ_mul 2 _ ▸ shift_ids_range (hlts _ (List.mem_of_getElem? ht))⟩
  revert h
  -- the cases are numbered as in `apply_spec`
  fun_cases GPOp.apply P op <;> intro h <;> cases h
  case case1 i t ht =>
    exact popOK_best_fresh hP hle (copy1 ht).1 (ids_range_mono (copy1 ht).2 (Nat.le_refl _) h23)
  case case3 w s t ht _ =>
    exact popOK_set_fresh hP w hle (copy1 ht).1 (ids_range_mono (copy1 ht).2 (Nat.le_refl _) h23)
  case case6 i point branch t ht t' hm =>
    obtain ⟨hwf, hr⟩ := copy1 ht
    refine popOK_set_fresh hP i hle
      (mutate_wf hwf hadm.1 (Disj.of_lt_of_le (fun x hx => (hr x hx).2) (fun x hx => (hadm.2 x hx).1)).symm hm)
      (fun x hx => (mutate_ids_subset hm x hx).elim ?_ ?_)
    · exact ids_range_mono hr (Nat.le_refl _) h23 x
    · exact ids_range_mono hadm.2 h12 (Nat.le_refl _) x
  case case9 a b pf pm f m hb ha f' m' hc =>
    obtain ⟨hwf, hfr⟩ := copy1 ha
    obtain ⟨hwm, hmr⟩ := copy2 hb
    have hd : Disj (shift P.next f) (shift (2 * P.next) m) :=
      .of_lt_of_le (fun x hx => (hfr x hx).2) (fun x hx => (hmr x hx).1)
    have hsub : ∀ x, x ∈ f'.ids ∨ x ∈ m'.ids → P.next ≤ x ∧ x < 3 * P.next := fun x hx =>
      (cross_ids_subset hc x hx).elim (ids_range_mono hfr (Nat.le_refl _) h23 x) (ids_range_mono hmr h12 (Nat.le_refl _) x)
    have hwfc := cross_wf hwf hwm hd hc
    exact popOK_set_fresh_pair hP a b hle hwfc.1 hwfc.2 (fun x hx => hsub x (Or.inl hx)) (fun x hx => hsub x (Or.inr hx))
      (cross_disjoint hwf hwm hd hc)
  case case12 i tree _ =>
    exact popOK_set_fresh hP i hle hadm.1 (ids_range_mono hadm.2 h12 (Nat.le_refl _))

set_option linter.unusedVariables false in
/-- **every step keeps the population proper** (`hnext` is not needed, see `apply_popOK`: a step that returns has read a
    tree of the proper population, whose identities lie below `next`) -/
theorem step_popOK {ar : Nat → Nat} {P P' : Pop} (op : GPOp) (hP : PopOK ar P) (hadm : op.admissible ar P)
    (hnext : 0 < P.next) (h : op.apply P = some P') : PopOK ar P' ∧ P.next ≤ P'.next :=
  ⟨apply_popOK op hP hadm h, (apply_spec op h).1 ▸ Nat.le_mul_of_pos_left _ (by decide)⟩

/-- a sequence of steps, each admissible in the population it is applied to -/
def AllAdmissible (ar : Nat → Nat) : Pop → List GPOp → Prop
  | _, [] => True
  | P, op :: ops => op.admissible ar P ∧ ∀ P', op.apply P = some P' → AllAdmissible ar P' ops

/-- `P'` is reached from `P` by admissible steps that write only slots in `S` -/
inductive Steps (ar : Nat → Nat) (S : Nat → Prop) : Pop → Pop → Prop
  | refl (P : Pop) : Steps ar S P P
  | step {P P1 P' : Pop} (op : GPOp) : op.admissible ar P → (∀ i ∈ op.slots, S i) → op.apply P = some P1 →
      Steps ar S P1 P' → Steps ar S P P'

namespace Steps

theorem trans {ar : Nat → Nat} {S : Nat → Prop} {P P1 P' : Pop} (a : Steps ar S P P1) (b : Steps ar S P1 P') :
    Steps ar S P P' := by
  induction a with
  | refl => exact b
  | step op hadm hS h _ ih => exact .step op hadm hS h (ih b)

/-- the invariant of the forest: the `*_popOK` theorems of the loops, of an iteration and of a task are instances -/
theorem inv {ar : Nat → Nat} {S : Nat → Prop} {P P' : Pop} (a : Steps ar S P P') (hP : PopOK ar P) :
    PopOK ar P' ∧ P.next ≤ P'.next ∧ P'.trees.length = P.trees.length ∧ ∀ i, ¬ S i → P'.trees[i]? = P.trees[i]? := by
  induction a with
  | refl => exact ⟨hP, Nat.le_refl _, rfl, fun _ _ => rfl⟩
  | step op hadm hS h _ ih =>
    obtain ⟨hnext, hlen, hfr⟩ := apply_spec op h
    obtain ⟨a, b, c, d⟩ := ih (apply_popOK op hP hadm h)
    exact ⟨a, Nat.le_trans (hnext ▸ Nat.le_mul_of_pos_left _ (by decide)) b, c.trans hlen,
      fun i hi => (d i hi).trans (hfr i (fun hm => hi (hS i hm)))⟩

theorem of_run {ar : Nat → Nat} {S : Nat → Prop} {P P' : Pop} {ops : List GPOp} (hadm : AllAdmissible ar P ops)
    (hS : ∀ op ∈ ops, ∀ i ∈ op.slots, S i) (h : runGPOps ar P ops = some P') : Steps ar S P P' := by
  fun_induction runGPOps ar P ops
  case case1 => cases h; exact .refl _
  case case2 P op ops P1 hs ih =>
    have hS := List.forall_mem_cons.1 hS
    exact .step op hadm.1 hS.1 hs (ih (hadm.2 P1 hs) hS.2 h)
  case case3 => cases h

end Steps

/-- **C08, population clause, for every history**: whatever sequence of reproduction, mutation and crossover steps a GP
    run performs (any slots, points, grown branches), the forest stays a family of proper expression trees no two of
    which share a node -/
theorem runGPOps_popOK {ar : Nat → Nat} : ∀ (ops : List GPOp) (P P' : Pop), PopOK ar P → 0 < P.next →
    AllAdmissible ar P ops → runGPOps ar P ops = some P' → PopOK ar P' :=
  fun _ _ _ hP _ hadm h => ((Steps.of_run (S := fun _ => True) hadm (fun _ _ _ _ => trivial) h).inv hP).1

theorem growMany_blocks {cfg : GrowCfg} {k n : Nat} {ds : List Nat} {nid : Nat} {ts : List PNode} {d : List Nat} {m : Nat}
    (h : growMany cfg k n ds nid = some (ts, d, m)) :
    nid ≤ m ∧ ts.length = n ∧ (∀ t ∈ ts, WF cfg.ar t ∧ ∀ x ∈ t.ids, nid ≤ x ∧ x < m) ∧ ts.Pairwise Disj := by
  fun_induction growMany cfg k n ds nid generalizing ts d m <;> cases h
  case case1 => exact ⟨Nat.le_refl _, rfl, fun _ h => (nomatch h), .nil⟩
  case case2 n ds nid t ds' nid' hg ts d m hm ih =>
    -- the first tree lies in `[nid, nid')`, the others in `[nid', m)`
    obtain ⟨hle, hlen, hts, hpw⟩ := ih hm
    obtain ⟨hfr, hlt⟩ := grow_ids_fresh hg
    have hlt := Nat.le_of_lt hlt
    exact ⟨Nat.le_trans hlt hle, congrArg (· + 1) hlen,
      List.forall_mem_cons.2 ⟨⟨grow_wf hg, ids_range_mono hfr (Nat.le_refl _) hle⟩,
        fun u hu => ⟨(hts u hu).1, ids_range_mono (hts u hu).2 hlt (Nat.le_refl _)⟩⟩,
      List.pairwise_cons.2 ⟨fun u hu => .of_lt_of_le (fun x hx => (hfr x hx).2) (fun x hx => ((hts u hu).2 x hx).1), hpw⟩⟩

theorem growMany_spec (cfg : GrowCfg) (k : Nat) : ∀ (n : Nat) (ds : List Nat) (nid : Nat) (ts : List PNode) (d : List Nat) (m : Nat),
    growMany cfg k n ds nid = some (ts, d, m) →
      nid ≤ m ∧ (∀ t ∈ ts, WF cfg.ar t) ∧ (∀ t ∈ ts, ∀ x ∈ t.ids, nid ≤ x ∧ x < m) ∧
      (∀ (i j : Nat) (a b : PNode), i ≠ j → ts[i]? = some a → ts[j]? = some b → Disj a b) := by
  intro n ds nid ts d m h
  obtain ⟨a, _, b, c⟩ := growMany_blocks h
  exact ⟨a, fun t ht => (b t ht).1, fun t ht => (b t ht).2, pairwise_getElem? (fun _ _ => Disj.symm) c⟩

/-- the forest `_create_trees` builds is proper: the starting point of `runGPOps_popOK` -/
theorem growMany_popOK (cfg : GrowCfg) (k n : Nat) (ds : List Nat) (nid : Nat) (ts : List PNode) (d : List Nat) (m : Nat)
    (h : growMany cfg k n ds nid = some (ts, d, m)) : PopOK cfg.ar ⟨ts, nil, m⟩ := by
  obtain ⟨_, hwf, hr, hd⟩ := growMany_spec cfg k n ds nid ts d m h
  exact ⟨hwf, fun t ht x hx => (hr t ht x hx).2, hd, Or.inl rfl⟩

def cfgE : GrowCfg := { funcs := [0, 4], ar := fun k => if k < 4 then 2 else 1, nTerminals := 2 }
def drawsE : List Nat := [0, 2, 3, 1, 2, 0, 0, 1, 0, 3, 2, 1, 1, 1, 0]

/-- a concrete initial forest of three trees (sizes 3, 2, 5) on identities 1..10 -/
def popE : Pop := match growMany cfgE 2 3 drawsE 1 with
  | some (ts, _, m) => ⟨ts, .nil, m⟩
  | none => ⟨[], .nil, 1⟩

def branchE : PNode := mk 25 ⟨false, 4, 0⟩ none true (mk 26 ⟨true, 1, 2⟩ (some 25) true nil nil) nil

/-- non-vacuity: a proper initial forest and a sequence of steps of every kind that runs through, each admissible -/
example : PopOK cfgE.ar popE := by
  unfold popE
  cases h : growMany cfgE 2 3 drawsE 1 with
  | none => exact absurd h (by decide)
  | some r =>
    obtain ⟨ts, d, m⟩ := r
    exact growMany_popOK cfgE 2 3 drawsE 1 ts d m h
example : popE.next = 11 ∧ popE.trees.map PNode.size = [3, 2, 5] := by decide +kernel
example : (runGPOps cfgE.ar popE [.cross 0 2 1 2, .reproduce 1 0, .recordBest 2, .mutate 1 1 branchE]).map
    (fun P' => (P'.trees.length, P'.best.isNil, P'.next)) = some (3, false, 891) := by decide +kernel
example : (GPOp.mutate 1 1 branchE).admissible cfgE.ar popE :=
  ⟨wf_of_wfB (by decide +kernel), by decide +kernel⟩
end Opy
