import OpyVerif.Proofs.Lemmas.NormLemmas
/-!
C03 (part) — the fitness normalisations of GSA, BHA and WCA (`Model/Normalise.lean`) over `ℝ`:
when their divisions are defined, and what ranges the results then lie in.

Over `ℝ` a division by zero is not an error (`x / 0 = 0` by Mathlib's convention), so "the division
is defined" is stated as "the denominator is non-zero" (`< 0` or `> 0`), and the excluded points
are exhibited as denominators that *are* zero.
-/
namespace Opy

/-! ### GSA `_calculate_mass` (after the repair) -/

/-- first denominator `best - worst - eps` is negative: the first division is always defined.
    `fits` sorted ascending, `0 < eps`. (Non-emptiness is not needed: on `[]` the model's defaults
    give `0 - 0 - eps`.) -/
theorem gsaDen1_neg (eps : ℝ) (fits : List ℝ) (hs : fits.Pairwise (· ≤ ·)) (heps : 0 < eps) :
    gsaDen1 eps fits < 0 := by
  rw [gsaDen1_real]
  exact sub_neg.mpr ((sub_nonpos.mpr (gsaBest_le_gsaWorst fits hs)).trans_lt heps)

/-- every raw mass `(fit_i - worst) / (best - worst - eps)` is non-negative -/
theorem gsaRawMass_nonneg (eps : ℝ) (fits : List ℝ) (hs : fits.Pairwise (· ≤ ·)) (heps : 0 < eps) :
    ∀ m ∈ gsaRawMass eps fits, 0 ≤ m := by
  intro m hm
  rw [gsaRawMass_real] at hm
  obtain ⟨f, hf, rfl⟩ := List.mem_map.mp hm
  exact div_nonneg_of_nonpos (sub_nonpos.mpr (le_gsaWorst fits hs f hf)) (gsaDen1_neg eps fits hs heps).le

/-- second denominator `sum(mass) + eps` is positive: the second division is always defined -/
theorem gsaDen2_pos (eps : ℝ) (fits : List ℝ) (hs : fits.Pairwise (· ≤ ·)) (heps : 0 < eps) :
    0 < gsaDen2 eps fits := by
  rw [gsaDen2_real]
  exact add_pos_of_nonneg_of_pos (List.sum_nonneg (gsaRawMass_nonneg eps fits hs heps)) heps

/-- every normalised mass lies in `[0, 1)` -/
theorem gsaMass_nonneg (eps : ℝ) (fits : List ℝ) (hs : fits.Pairwise (· ≤ ·)) (heps : 0 < eps) :
    ∀ m ∈ gsaMass eps fits, 0 ≤ m ∧ m < 1 := by
  intro m hm
  rw [gsaMass_real] at hm
  obtain ⟨r, hr, rfl⟩ := List.mem_map.mp hm
  have hnn := gsaRawMass_nonneg eps fits hs heps
  have hd := gsaDen2_pos eps fits hs heps
  refine ⟨div_nonneg (hnn r hr) hd.le, (div_lt_one hd).mpr ?_⟩
  rw [gsaDen2_real]
  exact lt_add_of_le_of_pos (List.single_le_sum hnn r hr) heps

theorem gsaMass_sum_eq (eps : ℝ) (fits : List ℝ) :
    sumL (gsaMass eps fits) = (gsaRawMass eps fits).sum / ((gsaRawMass eps fits).sum + eps) := by
  rw [sumL_eq_sum, gsaMass_real, sum_map_div, gsaDen2_real]

/-- the normalised masses sum to a number in `[0, 1)` -/
theorem gsaMass_sum_lt_one (eps : ℝ) (fits : List ℝ) (hs : fits.Pairwise (· ≤ ·)) (heps : 0 < eps) :
    0 ≤ sumL (gsaMass eps fits) ∧ sumL (gsaMass eps fits) < 1 := by
  have hS := List.sum_nonneg (gsaRawMass_nonneg eps fits hs heps)
  have hd := add_pos_of_nonneg_of_pos hS heps
  rw [gsaMass_sum_eq]
  exact ⟨div_nonneg hS hd.le, (div_lt_one hd).mpr (lt_add_of_pos_right _ heps)⟩

/-- all fitnesses equal (the input that gave `0/0 = NaN` before the repair): every mass is `0` -/
theorem gsaMass_equal_fitness (eps c : ℝ) (fits : List ℝ) (h : ∀ x ∈ fits, x = c) :
    ∀ m ∈ gsaMass eps fits, m = 0 := by
  intro m hm
  rw [gsaMass_real] at hm
  obtain ⟨r, hr, rfl⟩ := List.mem_map.mp hm
  rw [gsaRawMass_of_const eps c fits h r hr, zero_div]

/-- … and on that input the two denominators are `-eps` and `eps`, both non-zero when `eps ≠ 0` -/
theorem gsaMass_equal_fitness_dens (eps c : ℝ) (fits : List ℝ) (h : ∀ x ∈ fits, x = c) :
    gsaDen1 eps fits = -eps ∧ gsaDen2 eps fits = eps := by
  constructor
  · rw [gsaDen1_real, gsaBest_eq_gsaWorst_of_const fits c h, sub_self, zero_sub]
  · rw [gsaDen2_real, List.sum_eq_zero (gsaRawMass_of_const eps c fits h), zero_add]

/-- one mass per agent (any scalar type) -/
theorem gsaMass_length {α : Type} [Elem α] (eps : α) (fits : List α) :
    (gsaMass eps fits).length = fits.length := by
  simp [gsaMass, gsaRawMass]

/-! ### BHA `_event_horizon` -/

theorem bhaRadius_spec (b cost : ℝ) (hc : cost ≠ 0) : bhaRadius b cost * cost = b := by
  rw [bhaRadius_real]; exact div_mul_cancel₀ b hc

theorem bhaRadius_pos (b cost : ℝ) (hb : 0 < b) (hc : 0 < cost) : 0 < bhaRadius b cost := by
  rw [bhaRadius_real]; exact div_pos hb hc

/-- The excluded point. Over `ℝ` the quotient by zero is `0` by convention, so the radius "exists";
    on IEEE / Python numbers `best_agent.fit / 0.0` with a Python float `cost` is the
    `ZeroDivisionError` of known finding K3 (e.g. every agent at fitness 0, or fitnesses cancelling). -/
theorem bhaRadius_zero_cost (b : ℝ) : bhaRadius b 0 = 0 := by
  rw [bhaRadius_real]; exact div_zero b

/-! ### WCA `_flow_intensity` -/

/-- each of the first `nsr` shares `fit_i / cost` lies in `(0, 1]` when the first `nsr`
    fitnesses are positive -/
theorem wcaFlow_share_mem (nsr : ℕ) (fits : List ℝ) (i : ℕ) (hpos : ∀ x ∈ fits.take nsr, 0 < x)
    (hi : i < nsr) (hn : nsr ≤ fits.length) :
    0 < wcaShare nsr fits i ∧ wcaShare nsr fits i ≤ 1 :=
  ⟨wcaShare_pos nsr fits i hpos hi hn, wcaShare_le_one nsr fits i hpos hi hn⟩

/-- the shares of the sea and the rivers sum to one -/
theorem wcaFlow_shares_sum (nsr : ℕ) (fits : List ℝ) (hpos : ∀ x ∈ fits.take nsr, 0 < x)
    (h1 : 1 ≤ nsr) (hn : nsr ≤ fits.length) :
    ∑ k ∈ Finset.range nsr, wcaShare nsr fits k = 1 := by
  have hc := sum_take_pos nsr fits hpos h1 hn
  simp only [wcaShare_real]
  rw [← Finset.sum_div, sum_range_getD fits nsr hn, div_self hc.ne']

/-- the rivers' shares (everything but the sea, index 0) sum to at most one -/
theorem wcaShares_sum_Ico_le (nsr : ℕ) (fits : List ℝ) (hpos : ∀ x ∈ fits.take nsr, 0 < x)
    (h1 : 1 ≤ nsr) (hn : nsr ≤ fits.length) :
    ∑ k ∈ Finset.Ico 1 nsr, wcaShare nsr fits k ≤ 1 := by
  rw [← wcaFlow_shares_sum nsr fits hpos h1 hn]
  apply Finset.sum_le_sum_of_subset_of_nonneg
  · intro k hk
    rw [Finset.mem_Ico] at hk
    exact Finset.mem_range.mpr hk.2
  · intro k hk _
    exact (wcaShare_pos nsr fits k hpos (Finset.mem_range.mp hk) hn).le

/-- every rounded flow is non-negative — for any fitnesses, any index (`|·| * (n - nsr) ≥ 0`) -/
theorem wcaFlows_nonneg (rnd : ℝ → ℤ) (hr : ∀ y, |(rnd y : ℝ) - y| ≤ 1 / 2) (nsr n : ℕ)
    (fits : List ℝ) (k : ℕ) : 0 ≤ rnd (wcaFlowReal nsr n fits k) := by
  apply rnd_nonneg rnd hr
  rw [wcaFlowReal_real]
  exact mul_nonneg (abs_nonneg _) (Nat.cast_nonneg _)

theorem wcaFlowReal_sum_Ico_le (nsr n : ℕ) (fits : List ℝ) (hpos : ∀ x ∈ fits.take nsr, 0 < x)
    (h1 : 1 ≤ nsr) (hn : nsr ≤ fits.length) :
    ∑ k ∈ Finset.Ico 1 nsr, wcaFlowReal nsr n fits k ≤ ((n - nsr : ℕ) : ℝ) :=
  calc ∑ k ∈ Finset.Ico 1 nsr, wcaFlowReal nsr n fits k
      = (∑ k ∈ Finset.Ico 1 nsr, wcaShare nsr fits k) * ((n - nsr : ℕ) : ℝ) := by
        rw [Finset.sum_mul]
        exact Finset.sum_congr rfl fun k hk => by
          rw [wcaFlowReal_real, abs_of_pos (wcaShare_pos nsr fits k hpos (Finset.mem_Ico.mp hk).2 hn)]
    _ ≤ 1 * ((n - nsr : ℕ) : ℝ) :=
        mul_le_mul_of_nonneg_right (wcaShares_sum_Ico_le nsr fits hpos h1 hn) (Nat.cast_nonneg _)
    _ = _ := one_mul _

/-- **The streams handed to the rivers fit into the population.** For any rounding within `1/2`
    (Python's `round`), positive fitnesses of the sea and the rivers, `1 ≤ nsr ≤ n = len(agents)`:
    each flow is `≥ 0` and the flows of rivers `1 … nsr-1` add up to at most `n` — so the running
    counter `n_flows` of `_update_stream`, hence its index `i < n_flows`, stays inside `agents`. -/
theorem wcaFlows_inrange_pos (rnd : ℝ → ℤ) (hr : ∀ y, |(rnd y : ℝ) - y| ≤ 1 / 2) (nsr n : ℕ)
    (fits : List ℝ) (hpos : ∀ x ∈ fits.take nsr, 0 < x) (h1 : 1 ≤ nsr) (hn : nsr ≤ n)
    (hlen : fits.length = n) :
    (∀ k, 0 ≤ rnd (wcaFlowReal nsr n fits k)) ∧
      ∑ k ∈ Finset.Ico 1 nsr, rnd (wcaFlowReal nsr n fits k) ≤ (n : ℤ) := by
  refine ⟨wcaFlows_nonneg rnd hr nsr n fits, (Int.cast_le (R := ℝ)).mp ?_⟩
  rw [Int.cast_natCast]
  -- each of the `nsr - 1` roundings adds at most `1/2`: `(n - nsr) + (nsr - 1) / 2 ≤ n`, with room to spare
  calc _ ≤ ∑ k ∈ Finset.Ico 1 nsr, wcaFlowReal nsr n fits k + ((Finset.Ico 1 nsr).card : ℝ) * (1 / 2) :=
        sum_rnd_le rnd hr _ _
    _ ≤ ((n - nsr : ℕ) : ℝ) + (nsr : ℝ) :=
        add_le_add (wcaFlowReal_sum_Ico_le nsr n fits hpos h1 (hlen ▸ hn))
          ((mul_le_of_le_one_right (Nat.cast_nonneg _) (by norm_num)).trans
            (Nat.cast_le.mpr ((Nat.card_Ico 1 nsr).trans_le (Nat.sub_le nsr 1))))
    _ = n := by rw [← Nat.cast_add, Nat.sub_add_cancel hn]

/-- the same for every prefix of the rivers: the running counter `n_flows` after river `m - 1`
    is between `0` and `n` -/
theorem wcaFlows_prefix_inrange (rnd : ℝ → ℤ) (hr : ∀ y, |(rnd y : ℝ) - y| ≤ 1 / 2) (nsr n : ℕ)
    (fits : List ℝ) (hpos : ∀ x ∈ fits.take nsr, 0 < x) (h1 : 1 ≤ nsr) (hn : nsr ≤ n)
    (hlen : fits.length = n) (m : ℕ) (hm : m ≤ nsr) :
    0 ≤ ∑ k ∈ Finset.Ico 1 m, rnd (wcaFlowReal nsr n fits k) ∧
      ∑ k ∈ Finset.Ico 1 m, rnd (wcaFlowReal nsr n fits k) ≤ (n : ℤ) := by
  obtain ⟨h0, hall⟩ := wcaFlows_inrange_pos rnd hr nsr n fits hpos h1 hn hlen
  refine ⟨Finset.sum_nonneg fun k _ => h0 k, le_trans ?_ hall⟩
  exact Finset.sum_le_sum_of_subset_of_nonneg (Finset.Ico_subset_Ico_right hm) fun k _ _ => h0 k

/-- The excluded point (known finding K2): with fitnesses of both signs the cost of the sea and the
    rivers can be exactly zero, e.g. `[1, -1, …]` with `nsr = 2`; `agents[i].fit / cost` is then a
    division by zero and `_flow_intensity` crashes (zero / sign-changing fitness sums). -/
theorem wcaFlow_zero_cost_example : sumL ([1, -1] : List ℝ) = 0 := by
  rw [sumL_eq_sum]; norm_num

theorem wcaFlow_zero_cost_example' : wcaCost 2 ([1, -1, 5, 7] : List ℝ) = 0 := by
  rw [wcaCost_real]; norm_num

/-! ### satisfiability of the hypotheses, on concrete numbers -/

example : ([1, 2, 4] : List ℝ).Pairwise (· ≤ ·) ∧ (0 : ℝ) < 1e-32 := by
  refine ⟨?_, by norm_num⟩
  simp only [List.pairwise_cons, List.mem_cons, List.not_mem_nil, or_false, forall_eq_or_imp,
    forall_eq, List.Pairwise.nil, and_true, false_imp_iff, implies_true]
  norm_num
example : ∀ x ∈ ([2, 2, 2] : List ℝ), x = 2 := by simp
example : (5 : ℝ) ≠ 0 ∧ (0 : ℝ) < 1 ∧ (0 : ℝ) < 5 := by norm_num
/-- a rounding function within `1/2` exists (Mathlib's `round`) -/
example : ∃ rnd : ℝ → ℤ, ∀ y, |(rnd y : ℝ) - y| ≤ 1 / 2 :=
  ⟨round, fun y => by rw [abs_sub_comm]; exact abs_sub_round y⟩
example : (∀ x ∈ ([3, 2, 1, 9, 9] : List ℝ).take 3, 0 < x) ∧ 1 ≤ 3 ∧ 3 ≤ 5 ∧
    ([3, 2, 1, 9, 9] : List ℝ).length = 5 := by
  refine ⟨?_, by norm_num, by norm_num, rfl⟩
  intro x hx
  simp only [List.take_succ_cons, List.take_zero, List.mem_cons, List.not_mem_nil, or_false] at hx
  rcases hx with rfl | rfl | rfl <;> norm_num

#print axioms gsaDen1_neg
#print axioms gsaRawMass_nonneg
#print axioms gsaDen2_pos
#print axioms gsaMass_nonneg
#print axioms gsaMass_sum_eq
#print axioms gsaMass_sum_lt_one
#print axioms gsaMass_equal_fitness
#print axioms gsaMass_equal_fitness_dens
#print axioms gsaMass_length
#print axioms bhaRadius_spec
#print axioms bhaRadius_pos
#print axioms bhaRadius_zero_cost
#print axioms wcaFlow_share_mem
#print axioms wcaFlow_shares_sum
#print axioms wcaFlows_nonneg
#print axioms wcaFlows_inrange_pos
#print axioms wcaFlows_prefix_inrange
#print axioms wcaFlow_zero_cost_example
#print axioms wcaFlow_zero_cost_example'

end Opy
