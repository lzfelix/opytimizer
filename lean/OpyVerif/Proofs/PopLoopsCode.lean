import OpyVerif.Proofs.PopLoops
import OpyVerif.Generated.PopLoops
/-!
C08 / C09 (population clauses) about the *translated* `GP._mutation` and `GP._crossover`: `Gen.mutLoop`, `Gen.crossLoop` are
what the translator read from the current working tree.
-/
namespace Opy

/-- whatever the tournament selects, whatever points `_mutate` draws and whatever proper, fresh trees `space.grow` returns:
    after `GP._mutation` the forest is a family of proper, pairwise disjoint expression trees of the same size, and slots
    that were not selected hold the tree they held -/
theorem code_mutation_popOK {ar : Nat → Nat} (P P' : Pop) (selected : List Nat) (points : List Nat) (grown : List PNode)
    (hP : PopOK ar P) (hn : 0 < P.next) (hg : GrownFresh ar P.next grown)
    (h : Gen.mutLoop.run P selected points grown = some P') :
    PopOK ar P' ∧ P'.trees.length = P.trees.length ∧ ∀ i, i ∉ selected → P'.trees[i]? = P.trees[i]? := by
  rw [Gen.mutLoop_eq] at h; exact mutLoop_popOK P P' selected points grown hP hn hg h

/-- the same for `GP._crossover`, for every tournament outcome (also one that names an individual twice, or pairs it with
    itself) and all points -/
theorem code_crossover_popOK {ar : Nat → Nat} (P P' : Pop) (selected : List Nat) (draws : List (Nat × Nat))
    (hP : PopOK ar P) (hn : 0 < P.next) (h : Gen.crossLoop.run P selected draws = some P') :
    PopOK ar P' ∧ P'.trees.length = P.trees.length ∧ ∀ i, i ∉ selected → P'.trees[i]? = P.trees[i]? := by
  rw [Gen.crossLoop_eq] at h; exact crossLoop_popOK P P' selected draws hP hn h

/-- the tournament is asked for an even number of parents, so `pairwise` pairs all of them -/
theorem code_crossover_count_even (n : Nat) : Gen.crossLoop.count n % 2 = 0 := by
  rw [Gen.crossLoop_eq]; exact crossLoop_count_even n

theorem code_crossover_pairs_all (n : Nat) (selected : List Nat) (h : selected.length = Gen.crossLoop.count n) :
    (pairsOf selected).flatMap (fun p => [p.1, p.2]) = selected :=
  pairsOf_flatten selected (by rw [h]; exact code_crossover_count_even n)

end Opy
