import OpyVerif.Model.SelectProg
/-! The expected readings of `tournament_selection` / `generate_bernoulli_distribution` are the models. -/
namespace Opy

theorem tournProg_rounds_is_tournament (fitness : List Int) (rounds : List (List Int)) :
    Expected.tournProg.rounds fitness rounds = tournament fitness rounds := by
  induction rounds with
  | nil => rfl
  | cons step rest ih =>
    simp only [TournProg.rounds, tournament, ih]
    rfl

/-- the expected reading of `tournament_selection` is the model `tournament`, for every fitness list and every draws -/
theorem tournProg_is_tournament (fitness : List Int) (rounds : List (List Int)) :
    Expected.tournProg.run fitness rounds = tournament fitness rounds :=
  (if_pos (by decide)).trans (tournProg_rounds_is_tournament fitness rounds)

/-- the expected reading of `generate_bernoulli_distribution` is the model `bernoulli` -/
theorem bernProg_is_bernoulli (prob : Int) (us : List Int) :
    Expected.bernProg.run prob us = some (bernoulli prob us) := by
  simp [BernProg.run, Expected.bernProg, bernoulli, BCmp.holds]

end Opy
