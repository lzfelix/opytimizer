import OpyVerif.Model.FExpected
import OpyVerif.Proofs.Lemmas.ListLemmas
/-!
For all inputs and every scalar domain (`Float` for execution, `ℝ` for the property theorems): the
expected expressions of `Model/FExpected` denote the hand-written models.  Together with the
regenerated equalities of `Generated/FormulasC13.lean` … `FormulasC18.lean` (source = expected) this makes the
ℝ theorems of C13 C15 C16 C17 C18 statements about what the current source says (`Proofs/C13code.lean` … `C18code.lean`).
Core Lean only (no Mathlib).  The `d_<name>` proofs rely on the `local simp` set declared below: a new one goes into this file.
-/
namespace Opy
open Elem

section lists
variable {β : Type}
/-- `zipWith` stops at the shorter list, and `l.tail` is as long as `l.dropLast` -/
theorem zipWith_dropLast_tail (f : β → β → β) (l : List β) :
    List.zipWith f l.dropLast l.tail = (List.zip l l.tail).map fun p => f p.1 p.2 := by
  rw [List.zip, List.map_zipWith, List.zipWith_eq_zipWith_take_min (l₁ := l), List.dropLast_eq_take]
  simp [List.take_of_length_le]
theorem zipWith_tail_dropLast (f : β → β → β) (l : List β) :
    List.zipWith f l.tail l.dropLast = (List.zip l l.tail).map fun p => f p.2 p.1 := by
  rw [List.zipWith_comm, zipWith_dropLast_tail]
end lists

variable {α : Type} [Elem α]

attribute [local simp] FExpr.denote FVal.lift2 FVal.map1 FVal.red FVal.sl Fn1.app ipowL
  List.zipWith_map_left List.zipWith_map_right Function.comp_def
  zipWith_dropLast_tail zipWith_tail_dropLast pw2 pw3 pw4 pw5 pw6

def benchDenote (name : String) (env : String → α) (xs : List α) : Option (FVal α) :=
  (Expected.bench.lookup name).map (·.denote env xs)

theorem bench_keys_nodup : (Expected.bench.map (·.1)).Nodup := by decide +kernel

/-- the names of the table being distinct, entry `i` is what its name looks up: the `d_<name>` below say which entry they are
    about and are then statements about its denotation alone -/
theorem benchDenote_at (i : Nat) {name : String} {ex : FExpr} (h : Expected.bench[i]? = some (name, ex))
    (env : String → α) (xs : List α) : benchDenote name env xs = some (ex.denote env xs) := by
  rw [benchDenote, lookup_of_getElem? bench_keys_nodup h]; rfl

theorem d_ackley1 (env : String → α) (xs : List α) : benchDenote "ackley1" env xs = some (.s (ackley1 xs)) := by
  rw [benchDenote_at 0 rfl]
  simp [ackley1]
theorem d_alpine1 (env : String → α) (xs : List α) : benchDenote "alpine1" env xs = some (.s (alpine1 xs)) := by
  rw [benchDenote_at 1 rfl]
  simp [alpine1]
theorem d_alpine2 (env : String → α) (xs : List α) : benchDenote "alpine2" env xs = some (.s (alpine2 xs)) := by
  rw [benchDenote_at 2 rfl]
  simp [alpine2]
theorem d_brown (env : String → α) (xs : List α) : benchDenote "brown" env xs = some (.s (brown xs)) := by
  -- `dropLast` / `tail` stay under the `map`s: `zipWith_map_left/right` then expose `zipWith _ xs.dropLast xs.tail`
  rw [benchDenote_at 3 rfl]
  simp [brown, -List.map_dropLast, -List.map_tail]
theorem d_chung_reynolds (env : String → α) (xs : List α) : benchDenote "chung_reynolds" env xs = some (.s (chung_reynolds xs)) := by
  rw [benchDenote_at 4 rfl]
  simp [chung_reynolds, sphere]
theorem d_cosine_mixture (env : String → α) (xs : List α) : benchDenote "cosine_mixture" env xs = some (.s (cosine_mixture xs)) := by
  rw [benchDenote_at 5 rfl]
  simp [cosine_mixture]
theorem d_csendes (env : String → α) (xs : List α) : benchDenote "csendes" env xs = some (.s (csendes xs)) := by
  rw [benchDenote_at 6 rfl]
  simp [csendes]
theorem d_deb1 (env : String → α) (xs : List α) : benchDenote "deb1" env xs = some (.s (deb1 xs)) := by
  rw [benchDenote_at 7 rfl]
  simp [deb1]
theorem d_deb2 (env : String → α) (xs : List α) : benchDenote "deb2" env xs = some (.s (deb2 xs)) := by
  rw [benchDenote_at 8 rfl]
  simp [deb2]
theorem d_exponential (env : String → α) (xs : List α) : benchDenote "exponential" env xs = some (.s (exponential xs)) := by
  rw [benchDenote_at 9 rfl]
  simp [exponential, sphere]
theorem d_quintic (env : String → α) (xs : List α) : benchDenote "quintic" env xs = some (.s (quintic xs)) := by
  rw [benchDenote_at 10 rfl]
  simp [quintic]
theorem d_rastringin (env : String → α) (xs : List α) : benchDenote "rastringin" env xs = some (.s (rastringin xs)) := by
  rw [benchDenote_at 11 rfl]
  simp [rastringin]
theorem d_salomon (env : String → α) (xs : List α) : benchDenote "salomon" env xs = some (.s (salomon xs)) := by
  rw [benchDenote_at 12 rfl]
  simp [salomon, sphere]
theorem d_schumer_steiglitz (env : String → α) (xs : List α) : benchDenote "schumer_steiglitz" env xs = some (.s (schumer_steiglitz xs)) := by
  rw [benchDenote_at 13 rfl]
  simp [schumer_steiglitz]
theorem d_schwefel (env : String → α) (xs : List α) : benchDenote "schwefel" env xs = some (.s (schwefel xs)) := by
  rw [benchDenote_at 14 rfl]
  simp [schwefel]
theorem d_sphere (env : String → α) (xs : List α) : benchDenote "sphere" env xs = some (.s (sphere xs)) := by
  rw [benchDenote_at 15 rfl]
  simp [sphere]
theorem d_styblinski_tang (env : String → α) (xs : List α) : benchDenote "styblinski_tang" env xs = some (.s (styblinski_tang xs)) := by
  rw [benchDenote_at 16 rfl]
  simp [styblinski_tang]

theorem d_span (env : String → α) (row : List α) :
    Expected.span.denote env row = .s (spanRow (env "lb") (env "ub") row) := by
  simp [Expected.span, spanRow]

theorem d_norm (env : String → α) (row : List α) : Expected.norm.denote env row = .s (norm row) := by
  simp [Expected.norm]

def schedDenote (name : String) (env : String → α) : Option (FVal α) :=
  (Expected.schedules.lookup name).map (·.denote env [])

theorem sched_keys_nodup : (Expected.schedules.map (·.1)).Nodup := by decide +kernel

theorem schedDenote_at (i : Nat) {name : String} {ex : FExpr} (h : Expected.schedules[i]? = some (name, ex))
    (env : String → α) : schedDenote name env = some (ex.denote env []) := by
  rw [schedDenote, lookup_of_getElem? sched_keys_nodup h]; rfl

theorem d_aiwpso_w (env : String → α) (p n : Nat) (hp : env "p" = ofNat' p) (hn : env "len(agents)" = ofNat' n) :
    schedDenote "aiwpso_w" env = some (.s (aiwpsoW (env "self.w_min") (env "self.w_max") p n)) := by
  rw [schedDenote_at 0 rfl]
  simp [aiwpsoW, hp, hn]

theorem d_ihs_PAR (env : String → α) (N t : Nat) (hN : env "space.n_iterations" = ofNat' N) (ht : env "t" = ofNat' t) :
    schedDenote "ihs_PAR" env = some (.s (ihsPAR (env "self.PAR_min") (env "self.PAR_max") N t)) := by
  rw [schedDenote_at 1 rfl]
  simp [ihsPAR, hN, ht]

theorem d_ihs_bw (env : String → α) (N t : Nat) (hN : env "space.n_iterations" = ofNat' N) (ht : env "t" = ofNat' t) :
    schedDenote "ihs_bw" env = some (.s (ihsBw (env "self.bw_min") (env "self.bw_max") N t)) := by
  rw [schedDenote_at 2 rfl]
  simp [ihsBw, hN, ht]

theorem d_sa_T (env : String → α) :
    schedDenote "sa_T" env = some (.s (saT (env "self.T") (env "self.beta"))) := by
  rw [schedDenote_at 3 rfl]
  simp [saT]

theorem d_fa_alpha (env : String → α) (N : Nat) (hN : env "n_iterations" = ofNat' N) :
    schedDenote "fa_alpha" env = some (.s (faAlpha (env "self.alpha") N)) := by
  rw [schedDenote_at 4 rfl]
  simp [faAlpha, faDelta, hN]

theorem d_wca_dmax (env : String → α) (N : Nat) (hN : env "space.n_iterations" = ofNat' N) :
    schedDenote "wca_dmax" env = some (.s (wcaDmax (env "self.d_max") N)) := by
  rw [schedDenote_at 5 rfl]
  simp [wcaDmax, hN]

theorem d_levy (env : String → α) :
    Expected.levy.denote env [] = .s (levyStep (env "beta") (env "g1") (env "g2")) := by
  simp [Expected.levy, levyStep, levySigma]

/-- one round of the weighted-sum loop: `z += w * f(x)` -/
theorem d_weightedBody (env : String → α) :
    Expected.weightedBody.denote env [] = .s (env "z" + env "w" * env "fx") := by
  simp [Expected.weightedBody]

/-- the environment of one loop round -/
def wEnv (z w fx : α) : String → α := fun n => if n = "z" then z else if n = "w" then w else fx

/-- one loop round with body `b`: the new accumulator -/
def bodyStep (b : FExpr) (z w fx : α) : α :=
  match b.denote (wEnv z w fx) [] with
  | .s r => r
  | _ => z

/-- folding the translated loop body over `zip(weights, component values)` from `z = 0` is
    `Model/Num.weighted` -/
theorem weighted_is_body_fold (ws vals : List α) :
    (List.zip ws vals).foldl (fun z p => bodyStep Expected.weightedBody z p.1 p.2) (ofNat' 0)
      = weighted ws vals := by
  simp [weighted, bodyStep, Expected.weightedBody, wEnv]

end Opy
