import OpyVerif.Generated.Budget
import OpyVerif.Proofs.C03onlooker
/-!
C03, trial budget: for every optimizer and every population size the objective call sites found in the
current source (`Gen.evalTerms`) add up to the per-iteration budget the run-level check enforces
(`Expected.budgetFormula`), and every sweep makes exactly one call per agent.
-/
namespace Opy

def kinds17 : List String :=
  ["ABC", "AIWPSO", "BA", "BHA", "CS", "FA", "FPA", "GP", "GSA", "HC", "HS", "IHS", "PSO", "RPSO", "SA", "SCA", "WCA"]

theorem evalTerms_kinds : Expected.evalTerms.map (·.1) = kinds17 := by rfl

theorem sumBounds_of_agents (n : Nat) : ∀ ts : List EvalTerm,
    ts.map (·.factors) = [[.agents]] → sumBounds n ts = some n
  | [t], h => by
    simp only [List.map_cons, List.map_nil, List.cons.injEq, and_true] at h
    simp [sumBounds, EvalTerm.bound, h]
  | [], h => by cases h
  | _ :: _ :: _, h => by simp at h

theorem sweepTerms_shape : ∀ row ∈ Expected.evalTerms, row.2.2.map (·.factors) = [[.agents]] := by
  decide +kernel

/-- every optimizer's sweep is one objective call inside one loop over the agents: `n` calls -/
theorem sweep_is_one_call_per_agent (n : Nat) :
    ∀ row ∈ Expected.evalTerms, sumBounds n row.2.2 = some n :=
  fun row h => sumBounds_of_agents n _ (sweepTerms_shape row h)

/-- update trials + sweep = the budget formula, for every optimizer and every `n` -/
theorem budget_formula (n : Nat) :
    ∀ row ∈ Expected.evalTerms, iterationBudget n row.2 = some (Expected.budgetFormula row.1 n) := by
  intro row h
  rw [iterationBudget, sweep_is_one_call_per_agent n row h]
  simp only [Expected.evalTerms, List.mem_cons, List.mem_nil_iff, or_false] at h
  rcases h with h | h | h | h | h | h | h | h | h | h | h | h | h | h | h | h | h <;> subst h <;>
    simp [sumBounds, EvalTerm.bound, Expected.budgetFormula] <;> omega

/-- the same about the translated source -/
theorem code_budget (n : Nat) :
    ∀ row ∈ Gen.evalTerms, iterationBudget n row.2 = some (Expected.budgetFormula row.1 n) := by
  rw [Gen.evalTerms_eq]; exact budget_formula n

theorem code_sweep (n : Nat) : ∀ row ∈ Gen.evalTerms, sumBounds n row.2.2 = some n := by
  rw [Gen.evalTerms_eq]; exact sweep_is_one_call_per_agent n

/-- the `2n - 1` of the one `while` term is the bound proved for the onlooker loop's control flow -/
theorem while_term_is_onlooker_bound (n : Nat) (passes : List (List Bool)) (k : Nat) (hn : 0 < n)
    (hlen : ∀ p ∈ passes, p.length = n) (h : onlooker n 0 passes = some k) :
    ∃ b, EvalTerm.bound n { site := "ABC._evaluate_location", factors := [.whileLoop "k < len(agents)", .agents] } = some b
      ∧ n ≤ k ∧ k ≤ b :=
  ⟨2 * n - 1, by simp [EvalTerm.bound], onlooker_bounds n passes k hn hlen h⟩

theorem le_ite_of_le {c : Prop} [Decidable c] {n a b : Nat} (ha : n ≤ a) (hb : n ≤ b) :
    n ≤ if c then a else b := by
  split <;> assumption

/-- the budget is at least one call per agent -/
theorem budget_ge_sweep (kind : String) (n : Nat) : n ≤ Expected.budgetFormula kind n :=
  le_ite_of_le (by omega) (le_ite_of_le (by omega) (le_ite_of_le (by omega)
    (le_ite_of_le (by omega) (Nat.le_refl n))))

end Opy
