import OpyVerif.Proofs.Lemmas.RealLemmas
/-!
C18 (real part) — the random primitives as functions of the unit / standard draw they consume:
range of `uniform`, affinity of `normal`, symmetries and definedness of the Lévy step, range of the
integer index draw `int(np.random.uniform(low, high))`.
The formulas are the ones of `Model/Num.lean`, instantiated at `ℝ`.
-/
namespace Opy

/-- a unit draw `u ∈ [0,1)` lands in `[low, high)` -/
theorem uniformAffine_mem (low high u : ℝ) (hlh : low < high) (hu0 : 0 ≤ u) (hu1 : u < 1) :
    low ≤ uniformAffine low high u ∧ uniformAffine low high u < high := by
  rw [uniformAffine_real]
  exact ⟨(lerp_mem low high u hlh.le hu0 hu1.le).1, (lerp_lt low high hlh hu1).trans_eq (lerp_one low high)⟩

/-- `normal(mu, sd)` is the affine image of the standard draw; scaling `sd` scales the deviation -/
theorem normalAffine_affine (mu sd z c : ℝ) :
    normalAffine mu sd z = mu + sd * z ∧ normalAffine mu sd z - mu = sd * z ∧
      normalAffine mu (c * sd) z - mu = c * (normalAffine mu sd z - mu) := by
  rw [normalAffine_real, normalAffine_real]
  refine ⟨rfl, ?_, ?_⟩ <;> ring

/-- the Lévy step unfolded: `g1 * sigma / |g2| ^ (1/beta)` -/
theorem levyStep_eq (beta g1 g2 : ℝ) :
    levyStep beta g1 g2 = g1 * levySigma beta / |g2| ^ (1 / beta) := by
  unfold levyStep
  simp only [elem_mul, elem_div, elem_pow, elem_abs, elem_ofNat', Nat.cast_one]

/-- Mantegna's `sigma` unfolded -/
theorem levySigma_eq (beta : ℝ) :
    levySigma beta =
      ((Real.Gamma (1 + beta) * Real.sin (Real.pi * beta / 2)) /
        (Real.Gamma ((1 + beta) / 2) * beta * (2 : ℝ) ^ ((beta - 1) / 2))) ^ (1 / beta) := by
  unfold levySigma
  simp only [elem_add, elem_sub, elem_mul, elem_div, elem_pow, elem_sin, elem_pi, elem_gamma,
    elem_ofNat', Nat.cast_one, Nat.cast_ofNat]

/-- odd in the numerator draw -/
theorem levyStep_odd_u (beta g1 g2 : ℝ) : levyStep beta (-g1) g2 = -levyStep beta g1 g2 := by
  rw [levyStep_eq, levyStep_eq]; ring

/-- even in the denominator draw -/
theorem levyStep_even_v (beta g1 g2 : ℝ) : levyStep beta g1 (-g2) = levyStep beta g1 g2 := by
  rw [levyStep_eq, levyStep_eq, abs_neg]

set_option linter.unusedVariables false in
/-- the denominator is positive (so the division is defined) as soon as `g2 ≠ 0` (`hb` is not used) -/
theorem levyStep_defined (beta g2 : ℝ) (hg : g2 ≠ 0) (hb : 0 < beta) : |g2| ^ (1 / beta) > 0 :=
  Real.rpow_pos_of_pos (abs_pos.mpr hg) _

/-- `int(np.random.uniform(low, high))` for integer `low < high`, through the Model formula: the
    floor lies in `[low, high-1]` -/
theorem index_draw_range_uniformAffine (low high : ℤ) (u : ℝ) (hlh : low < high) (hu0 : 0 ≤ u)
    (hu1 : u < 1) :
    low ≤ ⌊uniformAffine (low : ℝ) (high : ℝ) u⌋ ∧ ⌊uniformAffine (low : ℝ) (high : ℝ) u⌋ ≤ high - 1 := by
  obtain ⟨a, b⟩ := uniformAffine_mem low high u (Int.cast_lt.mpr hlh) hu0 hu1
  exact ⟨Int.le_floor.mpr a, Int.le_sub_one_of_lt (Int.floor_lt.mpr b)⟩

/-- the same with the formula written out -/
theorem index_draw_range (low high : ℤ) (u : ℝ) (hlh : low < high) (hu0 : 0 ≤ u) (hu1 : u < 1) :
    low ≤ ⌊(low : ℝ) + ((high : ℝ) - (low : ℝ)) * u⌋ ∧
      ⌊(low : ℝ) + ((high : ℝ) - (low : ℝ)) * u⌋ ≤ high - 1 := by
  have h := index_draw_range_uniformAffine low high u hlh hu0 hu1
  rwa [uniformAffine_real, add_comm] at h

theorem uniformAffine_zero (low high : ℝ) : uniformAffine low high 0 = low := by
  rw [uniformAffine_real, lerp_zero]

/-- a degenerate range `low = high` gives `low` whatever the draw (the `[low, high)` contract is empty there) -/
theorem uniformAffine_degenerate (low u : ℝ) : uniformAffine low low u = low := by
  rw [uniformAffine_real]; ring

/-- for `low ≤ high` the result is non-decreasing in the unit draw (a fixed stream gives coupled samples) -/
theorem uniformAffine_mono (low high u u' : ℝ) (hlh : low ≤ high) (hu : u ≤ u') :
    uniformAffine low high u ≤ uniformAffine low high u' := by
  rw [uniformAffine_real, uniformAffine_real]
  exact lerp_mono low high hlh hu

/-- for a fixed draw the result moves with the bounds: widening the range upwards never lowers the sample -/
theorem uniformAffine_mono_high (low high high' u : ℝ) (hh : high ≤ high') (hu0 : 0 ≤ u) :
    uniformAffine low high u ≤ uniformAffine low high' u := by
  rw [uniformAffine_real, uniformAffine_real]
  exact add_le_add_left (mul_le_mul_of_nonneg_right (sub_le_sub_right hh low) hu0) low

/-- the closed interval version that holds for `low ≤ high` and `u ∈ [0, 1]` (what the callers rely on when they
    draw positions between bounds that may coincide) -/
theorem uniformAffine_mem_closed (low high u : ℝ) (hlh : low ≤ high) (hu0 : 0 ≤ u) (hu1 : u ≤ 1) :
    low ≤ uniformAffine low high u ∧ uniformAffine low high u ≤ high := by
  rw [uniformAffine_real]
  exact lerp_mem low high u hlh hu0 hu1

/-- the standard draw `0` gives the mean; deviation `0` gives the mean whatever the draw -/
theorem normalAffine_centre (mu sd z : ℝ) : normalAffine mu sd 0 = mu ∧ normalAffine mu 0 z = mu := by
  rw [normalAffine_real, normalAffine_real]; constructor <;> ring

/-- shifting the mean shifts the sample; for `sd ≥ 0` the sample is non-decreasing in the standard draw -/
theorem normalAffine_shift_mono (mu sd z z' c : ℝ) (hsd : 0 ≤ sd) (hz : z ≤ z') :
    normalAffine (mu + c) sd z = normalAffine mu sd z + c ∧ normalAffine mu sd z ≤ normalAffine mu sd z' := by
  rw [normalAffine_real, normalAffine_real, normalAffine_real]
  exact ⟨by ring, add_le_add_right (mul_le_mul_of_nonneg_left hz hsd) mu⟩

/-! satisfiability of the hypotheses, on concrete numbers -/

example : (-5 : ℝ) < 5 ∧ (0 : ℝ) ≤ 0.25 ∧ (0.25 : ℝ) < 1 := by norm_num
example : uniformAffine (-5 : ℝ) 5 0 = -5 := uniformAffine_zero _ _
example : (2 : ℝ) ≠ 0 ∧ (0 : ℝ) < 1.5 := by norm_num
example : (0 : ℤ) < 10 ∧ (0 : ℝ) ≤ 0.999 ∧ (0.999 : ℝ) < 1 := by norm_num
example : ⌊((0 : ℤ) : ℝ) + (((10 : ℤ) : ℝ) - ((0 : ℤ) : ℝ)) * 0.999⌋ = 9 := by
  rw [Int.floor_eq_iff]; norm_num

#print axioms uniformAffine_mem
#print axioms normalAffine_affine
#print axioms levyStep_eq
#print axioms levySigma_eq
#print axioms levyStep_odd_u
#print axioms levyStep_even_v
#print axioms levyStep_defined
#print axioms index_draw_range
#print axioms index_draw_range_uniformAffine
#print axioms uniformAffine_zero
#print axioms uniformAffine_degenerate
#print axioms uniformAffine_mono
#print axioms uniformAffine_mono_high
#print axioms uniformAffine_mem_closed
#print axioms normalAffine_centre
#print axioms normalAffine_shift_mono

end Opy
