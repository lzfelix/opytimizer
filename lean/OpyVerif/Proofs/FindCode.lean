import OpyVerif.Proofs.FindProg
import OpyVerif.Generated.Find
/-!
C11 (slot clause) about the *translated* `Node.find_node`.
-/
namespace Opy
open PNode

/-- the translated method is the model's `findNode`, for every tree and position: the C11 slot theorems
    (`findNode_terminal`, `findNode_function`, `findNode_function_under_root`, `findNode_out_of_range`) speak about it -/
theorem code_find_node (t : PNode) (p : Nat) : Gen.findProg.run t p none = findNode t p := by
  rw [Gen.findProg_eq]; exact findProg_is_findNode t p

end Opy
