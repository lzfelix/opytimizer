import OpyVerif.Model.Guards
/-!
C14 — validated attributes accept exactly their documented domain, atomically.

`agree_sound`: whenever the syntactic matcher pairs a guard condition with a documented
domain, the guard rejects a value **iff** the value lies outside the domain — for every
Python value of the model universe (every rational, ±∞, every type tag, length, string),
NaN excluded (numeric setters accept NaN: known finding K9, `nan_accepted` below).
The generated file (`Generated/Guards/guard_mismatches.lean`) proves, on every build, that the list of guards for
which `agree` fails is exactly the recorded list of known mismatches.
-/
namespace Opy.G

theorem Num.lt_iff_not_le (a b : Num) (ha : a ≠ .nan) (hb : b ≠ .nan) :
    a.lt b = true ↔ ¬ (b.le a = true) := by
  cases a <;> cases b <;> simp_all [Num.lt, Num.le, Rat.not_le]

theorem Num.le_iff_not_lt (a b : Num) (ha : a ≠ .nan) (hb : b ≠ .nan) :
    a.le b = true ↔ ¬ (b.lt a = true) := by
  rw [Num.lt_iff_not_le b a hb ha]; simp

theorem fin_ne_nan (q : Rat) : Num.fin q ≠ Num.nan := by intro h; cases h

theorem bnot_iff (b : Bool) : (!b) = true ↔ ¬ b = true := by rw [Bool.not_eq_true', Bool.not_eq_true]

/-- integers: `k < c + 1 ↔ ¬ (c < k)` -/
theorem int_lt_succ (k c : Int) : Num.lt (.fin (k : Rat)) (.fin ((c + 1 : Int) : Rat)) = true ↔
    ¬ (Num.lt (.fin (c : Rat)) (.fin (k : Rat)) = true) := by
  simp only [Num.lt, decide_eq_true_eq, Rat.intCast_lt_intCast]
  exact Int.lt_add_one_iff.trans Int.not_lt.symm

theorem agree_sound (it : Bool) (c : Cond) (d : Dom) (h : agree it c d = true) (ctx : Ctx) (v : PyVal)
    (hnan : v.num ≠ .nan) (hattr : ∀ a, ctx.attr a ≠ .nan)
    (hint : it = true → ∃ k : Int, v.num = .fin (k : Rat)) :
    c.holds ctx v = true ↔ ¬ d.mem ctx v := by
  -- one case per row of the matcher's table; `h` says that the parameters of the two sides coincide
  revert h
  fun_cases agree it c d <;> simp only [Bool.and_eq_true, beq_iff_eq, Cond.holds, Dom.mem] <;> intro h
  case case1 => rw [h]; exact bnot_iff _ -- .notInst t, .inst t'
  case case2 => rw [h]; exact Num.lt_iff_not_le _ _ hnan (fin_ne_nan _) -- .lt c, .ge c'
  case case3 => rw [h]; exact Num.le_iff_not_lt _ _ hnan (fin_ne_nan _) -- .le c, .gt c'
  case case4 c c' => -- .lt c, .gt c' on integers
    obtain ⟨k, hk⟩ := hint h.1
    rw [h.2, hk]; exact int_lt_succ k c'
  case case5 => -- .or (.lt a) (.gt b), .between a' b'
    rw [h.1, h.2, Bool.or_eq_true, Num.lt_iff_not_le _ _ hnan (fin_ne_nan _),
      Num.lt_iff_not_le _ _ (fin_ne_nan _) hnan]
    exact Decidable.not_and_iff_not_or_not.symm
  case case6 => rw [h]; exact Num.lt_iff_not_le _ _ hnan (hattr _) -- .ltAttr a, .geAttr a'
  case case7 => rw [h]; exact bnot_iff _ -- .notIn s, .oneOf s'
  case case8 => rw [h]; exact bne_iff_ne -- .shapeNe a, .sameSize a'
  case case9 => exact bnot_iff _ -- .notCallable, .callable
  case case10 => exact bnot_iff _ -- .notBuilt, .built
  case case11 => cases h -- every other pair: `agree` is false

/-- the setter is atomic: on rejection the object is returned unchanged (there is no state
    change to undo), on acceptance exactly the stored value changes -/
theorem setAttr_atomic {σ : Type} (store : σ → PyVal → σ) (ctx : Ctx) (gs : List Guard) (o : σ) (v : PyVal) :
    (∀ e, setAttr store ctx gs o v = .error e → firstError ctx v gs = some e) ∧
    (∀ o', setAttr store ctx gs o v = .ok o' → firstError ctx v gs = none ∧ o' = store o v) := by
  unfold setAttr
  cases firstError ctx v gs with
  | none => simp
  | some e => simp

theorem firstError_eq_none (ctx : Ctx) (v : PyVal) (gs : List Guard) :
    firstError ctx v gs = none ↔ ∀ g ∈ gs, g.cond.holds ctx v = false := by
  induction gs with
  | nil => simp [firstError]
  | cons g gs ih => cases h : g.cond.holds ctx v <;> simp [firstError, h, ih]

/-- the value is accepted iff no guard holds; with guards that all `agree` with their
    documented domains this is: iff the value is in every documented domain -/
theorem accepts_iff_all_domains (ctx : Ctx) (v : PyVal) (gs : List Guard)
    (hag : ∀ g ∈ gs, agree false g.cond g.dom = true)
    (hnan : v.num ≠ .nan) (hattr : ∀ a, ctx.attr a ≠ .nan) :
    firstError ctx v gs = none ↔ ∀ g ∈ gs, g.dom.mem ctx v := by
  rw [firstError_eq_none]
  refine forall_congr' fun g => forall_congr' fun hg => ?_
  have := agree_sound false g.cond g.dom (hag g hg) ctx v hnan hattr (by simp)
  rw [← Bool.not_eq_true, this, Classical.not_not]

/-- K9: NaN passes every sign / range guard although it is in none of the documented
    domains (`agree_sound` needs `v.num ≠ nan`) -/
theorem nan_accepted (ctx : Ctx) :
    (Cond.or (.lt 0) (.gt 1)).holds ctx { ty := .float, num := .nan } = false ∧
    ¬ (Dom.between 0 1).mem ctx { ty := .float, num := .nan } := by
  simp [Cond.holds, Dom.mem, Num.lt, Num.le]

/-- non-vacuity: the matcher accepts the common forms and refuses a wrong pairing -/
example : agree false (.or (.lt 0) (.gt 1)) (.between 0 1) = true := by decide
example : agree true (.lt 1) (.gt 0) = true := by decide
example : agree false (.lt 1) (.gt 1) = false := by decide

end Opy.G
