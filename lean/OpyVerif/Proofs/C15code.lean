import OpyVerif.Proofs.C15
import OpyVerif.Proofs.Formulas
import OpyVerif.Generated.FormulasC15
/-!
C15 stated about the *translated source*: the expressions of `Generated/FormulasDefs.lean` are what
`harness/translate_formulas.py` read from the current working tree.  Each theorem composes the
regenerated equality "source = expected expression" (`Generated/FormulasC15.lean`, re-decided on
every build), the denotation theorem of `Proofs/Formulas.lean` (expected expression = model, all
inputs) and the real-number theorem about the model.  `env` gives the values of the named
quantities the expression mentions (`self.w_min`, `space.n_iterations`, the loop counter `t`, …).
-/
namespace Opy

/-- the value the source assigns to the adaptive attribute `name` -/
noncomputable def schedCode (name : String) (env : String → ℝ) : Option (FVal ℝ) :=
  (Gen.scheduleExprs.lookup name).map (·.denote env [])

theorem code_aiwpso_w (env : String → ℝ) (p n : ℕ) (hp : env "p" = (p : ℝ)) (hn : env "len(agents)" = (n : ℝ)) :
    schedCode "aiwpso_w" env = some (.s (aiwpsoW (env "self.w_min") (env "self.w_max") p n)) := by
  unfold schedCode; rw [Gen.sched_aiwpso_w_eq]; exact d_aiwpso_w env p n hp hn

theorem code_ihs_PAR (env : String → ℝ) (N t : ℕ) (hN : env "space.n_iterations" = (N : ℝ)) (ht : env "t" = (t : ℝ)) :
    schedCode "ihs_PAR" env = some (.s (ihsPAR (env "self.PAR_min") (env "self.PAR_max") N t)) := by
  unfold schedCode; rw [Gen.sched_ihs_PAR_eq]; exact d_ihs_PAR env N t hN ht

theorem code_ihs_bw (env : String → ℝ) (N t : ℕ) (hN : env "space.n_iterations" = (N : ℝ)) (ht : env "t" = (t : ℝ)) :
    schedCode "ihs_bw" env = some (.s (ihsBw (env "self.bw_min") (env "self.bw_max") N t)) := by
  unfold schedCode; rw [Gen.sched_ihs_bw_eq]; exact d_ihs_bw env N t hN ht

/-- AIWPSO `self.w = …` stays in `[w_min, w_max]` -/
theorem code_aiwpso_w_mem (env : String → ℝ) (p n : ℕ) (hp : env "p" = (p : ℝ)) (hn : env "len(agents)" = (n : ℝ))
    (hn0 : 0 < n) (hpn : p ≤ n) (hw : env "self.w_min" ≤ env "self.w_max") :
    ∃ w, schedCode "aiwpso_w" env = some (.s w) ∧ env "self.w_min" ≤ w ∧ w ≤ env "self.w_max" :=
  ⟨_, code_aiwpso_w env p n hp hn, aiwpsoW_mem _ _ p n hn0 hpn hw⟩

/-- IHS `self.PAR = …` stays in `[PAR_min, PAR_max]` for every iteration `t < N` -/
theorem code_ihs_PAR_mem (env : String → ℝ) (N t : ℕ) (hN : env "space.n_iterations" = (N : ℝ)) (ht : env "t" = (t : ℝ))
    (hN0 : 0 < N) (htN : t < N) (hp : env "self.PAR_min" ≤ env "self.PAR_max") :
    ∃ v, schedCode "ihs_PAR" env = some (.s v) ∧ env "self.PAR_min" ≤ v ∧ v ≤ env "self.PAR_max" :=
  ⟨_, code_ihs_PAR env N t hN ht, ihsPAR_mem _ _ N t hN0 htN hp⟩

/-- IHS `self.bw = …` stays in `[bw_min, bw_max]` for every iteration `t < N` -/
theorem code_ihs_bw_mem (env : String → ℝ) (N t : ℕ) (hN : env "space.n_iterations" = (N : ℝ)) (ht : env "t" = (t : ℝ))
    (hN0 : 0 < N) (htN : t < N) (h0 : 0 < env "self.bw_min") (hb : env "self.bw_min" ≤ env "self.bw_max") :
    ∃ v, schedCode "ihs_bw" env = some (.s v) ∧ env "self.bw_min" ≤ v ∧ v ≤ env "self.bw_max" :=
  ⟨_, code_ihs_bw env N t hN ht, ihsBw_mem _ _ N t hN0 htN h0 hb⟩

/-- IHS `self.PAR = …` read at two iterations `t ≤ t'` of one task (same `PAR_min`, `PAR_max`, `n_iterations`):
    the later value is not smaller, and the value at `t = 0` is `PAR_min` -/
theorem code_ihs_PAR_monotone (env env' : String → ℝ) (N t t' : ℕ)
    (hN : env "space.n_iterations" = (N : ℝ)) (hN' : env' "space.n_iterations" = (N : ℝ))
    (ht : env "t" = (t : ℝ)) (ht' : env' "t" = (t' : ℝ))
    (hmin : env' "self.PAR_min" = env "self.PAR_min") (hmax : env' "self.PAR_max" = env "self.PAR_max")
    (hp : env "self.PAR_min" ≤ env "self.PAR_max") (htt : t ≤ t') :
    ∃ v v', schedCode "ihs_PAR" env = some (.s v) ∧ schedCode "ihs_PAR" env' = some (.s v') ∧ v ≤ v' ∧
      (t = 0 → v = env "self.PAR_min") := by
  refine ⟨_, _, code_ihs_PAR env N t hN ht, code_ihs_PAR env' N t' hN' ht', ?_, ?_⟩
  · rw [hmin, hmax]; exact ihsPAR_monotone _ _ N t t' hp htt
  · intro h0; subst h0; exact ihsPAR_zero _ _ N

/-- IHS `self.bw = …` read at two iterations `t ≤ t'` of one task: the later value is not larger, and the value at
    `t = 0` is `bw_max` -/
theorem code_ihs_bw_antitone (env env' : String → ℝ) (N t t' : ℕ)
    (hN : env "space.n_iterations" = (N : ℝ)) (hN' : env' "space.n_iterations" = (N : ℝ))
    (ht : env "t" = (t : ℝ)) (ht' : env' "t" = (t' : ℝ))
    (hmin : env' "self.bw_min" = env "self.bw_min") (hmax : env' "self.bw_max" = env "self.bw_max")
    (h0 : 0 < env "self.bw_min") (hb : env "self.bw_min" ≤ env "self.bw_max") (htt : t ≤ t') :
    ∃ v v', schedCode "ihs_bw" env = some (.s v) ∧ schedCode "ihs_bw" env' = some (.s v') ∧ v' ≤ v ∧
      (t = 0 → v = env "self.bw_max") := by
  refine ⟨_, _, code_ihs_bw env N t hN ht, code_ihs_bw env' N t' hN' ht', ?_, ?_⟩
  · rw [hmin, hmax]; exact ihsBw_antitone _ _ N t t' h0 hb htt
  · intro h0; subst h0; exact ihsBw_zero _ _ N

/-- AIWPSO `self.w = …` for two success counts `p ≤ p'` over the same swarm: more successes, no smaller weight -/
theorem code_aiwpso_w_monotone (env env' : String → ℝ) (p p' n : ℕ)
    (hp : env "p" = (p : ℝ)) (hp' : env' "p" = (p' : ℝ))
    (hn : env "len(agents)" = (n : ℝ)) (hn' : env' "len(agents)" = (n : ℝ))
    (hmin : env' "self.w_min" = env "self.w_min") (hmax : env' "self.w_max" = env "self.w_max")
    (hw : env "self.w_min" ≤ env "self.w_max") (hpp : p ≤ p') :
    ∃ w w', schedCode "aiwpso_w" env = some (.s w) ∧ schedCode "aiwpso_w" env' = some (.s w') ∧ w ≤ w' := by
  refine ⟨_, _, code_aiwpso_w env p n hp hn, code_aiwpso_w env' p' n hp' hn', ?_⟩
  rw [hmin, hmax]; exact aiwpsoW_monotone _ _ p p' n hw hpp

/-- SA `self.T *= self.beta` neither increases nor becomes negative (decay ≤ 1) -/
theorem code_sa_T_antitone_nonneg (env : String → ℝ) (hT : 0 ≤ env "self.T") (hb0 : 0 ≤ env "self.beta")
    (hb1 : env "self.beta" ≤ 1) :
    ∃ v, schedCode "sa_T" env = some (.s v) ∧ 0 ≤ v ∧ v ≤ env "self.T" := by
  refine ⟨_, ?_, saT_antitone_nonneg _ _ hT hb0 hb1⟩
  unfold schedCode; rw [Gen.sched_sa_T_eq]; exact d_sa_T env

/-- FA `self.alpha *= (1 - delta)` neither increases nor becomes negative -/
theorem code_fa_alpha_antitone_nonneg (env : String → ℝ) (N : ℕ) (hN : env "n_iterations" = (N : ℝ)) (hN0 : 0 < N)
    (ha : 0 ≤ env "self.alpha") :
    ∃ v, schedCode "fa_alpha" env = some (.s v) ∧ 0 ≤ v ∧ v ≤ env "self.alpha" := by
  refine ⟨_, ?_, faAlpha_antitone_nonneg _ N hN0 ha⟩
  unfold schedCode; rw [Gen.sched_fa_alpha_eq]; exact d_fa_alpha env N hN

/-- WCA `self.d_max -= self.d_max / n_iterations` neither increases nor becomes negative -/
theorem code_wca_dmax_antitone_nonneg (env : String → ℝ) (N : ℕ) (hN : env "space.n_iterations" = (N : ℝ)) (hN1 : 1 ≤ N)
    (hd : 0 ≤ env "self.d_max") :
    ∃ v, schedCode "wca_dmax" env = some (.s v) ∧ 0 ≤ v ∧ v ≤ env "self.d_max" := by
  refine ⟨_, ?_, wcaDmax_antitone_nonneg _ N hN1 hd⟩
  unfold schedCode; rw [Gen.sched_wca_dmax_eq]; exact d_wca_dmax env N hN

/-- frame: after construction no optimizer method assigns any attribute other than the six
    self-adapting ones (of five optimizers), and none re-runs `_build/_rebuild` (regenerated table, decided on every build) -/
theorem code_attr_writes :
    Gen.attrWrites = [("AIWPSO", "_compute_success", "w"), ("FA", "_update", "alpha"), ("IHS", "run", "PAR"),
      ("IHS", "run", "bw"), ("SA", "_update", "T"), ("WCA", "run", "d_max")] := by
  rw [Gen.attrWrites_eq]; rfl

end Opy
