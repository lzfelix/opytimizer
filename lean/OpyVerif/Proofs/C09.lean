import OpyVerif.Proofs.Lemmas.TreeOpsLemmas
/-
C09: what mutation and crossover *do* — for every tree, every point.

* `find_node` on a proper tree designates the selected terminal's own slot, or the slot of the
  *parent* of the selected function node (`findNode_slot_designates`);
* `_cross` exchanges exactly the two designated slots (`cross_spec*`), otherwise returns the
  pair unchanged (`cross_no_slot`), and conserves the combined multiset of nodes
  (`cross_multiset`);
* `_mutate` writes the branch into exactly the designated slot (`mutate_spec*`);
* one pointer write changes only its slot (`setChild_frame'`, `setChild_childOf_other`).

`cross_pure` / `mutate_pure` are not stated: `cross` and `mutate` are Lean functions on values,
so "the result depends only on the arguments and the arguments are not modified" is vacuous here
(it is a property of the tie between model and code, not of the model).
-/
namespace Opy
namespace PNode

/-- On a proper tree a slot answered by `find_node p` is a slot of the tree, and the child hanging
    there is the node at pre-order position `p` itself when that node is a terminal, and the
    *parent* of that node when it is a function node. -/
theorem findNode_slot_designates {ar : Nat → Nat} {t : PNode} {p pid : Nat} {side : Bool}
    (hwf : WF ar t) (h : findNode t p = .slot pid side) :
    pid ∈ t.ids ∧ ∃ node, t.pre[p]? = some node ∧
      ((node.isTermNode = true ∧ childOf pid side t = node) ∨
       (node.isTermNode = false ∧ ∃ q, node.storedPar = some q ∧
          lookup q t = some (childOf pid side t))) :=
  findNode_slot_spec hwf h

/-- Frame: every node of `setChild pid side b t` comes from the branch or is a node of `t` with
    the same identity, label, stored parent and flag. -/
theorem setChild_frame' (pid : Nat) (side : Bool) (b t : PNode) :
    ∀ n ∈ (setChild pid side b t).pre,
      n.id? ∈ b.ids.map some ∨
      ∃ n0 ∈ t.pre, n0.id? = n.id? ∧ n0.lbl? = n.lbl? ∧ n0.storedPar = n.storedPar ∧
        n0.storedFlag = n.storedFlag := fun n hn =>
  (mem_pre_setChild pid side b t n hn).imp_left fun h => by
    rw [← ids_relink pid side b, ← pre_map_id?]; exact List.mem_map.2 ⟨n, h, rfl⟩

/-- after the write the slot holds the branch, re-linked -/
theorem setChild_childOf_self {pid : Nat} {side : Bool} {b t : PNode}
    (hnd : t.ids.Nodup) (hmem : pid ∈ t.ids) :
    childOf pid side (setChild pid side b t) = relink pid side b := by
  revert t
  apply slot_induction
  · intro lb par flag l r _ _
    rw [setChild_here, childOf_here]; cases side <;> rfl
  · intro i lb par flag l r hi hl hr hnl ih
    rw [setChild_left hi hr, childOf_left hi (mem_ids_setChild_of_mem hnl hl hl (pid_not_mem_childOf hnl)), ih]
  · intro i lb par flag l r hi hl hr _ ih
    rw [setChild_right hi hl, childOf_right hi hl, ih]

/-- Any *other* slot `(pid', side')` whose parent is neither inside the replaced child nor an
    identity of the branch holds, after the write, what it held before with the same write
    applied inside it. -/
theorem setChild_childOf_other {pid pid' : Nat} {side side' : Bool} {b : PNode} :
    ∀ t : PNode, t.ids.Nodup → (pid', side') ≠ (pid, side) → pid' ∉ b.ids →
      pid' ∉ (childOf pid side t).ids →
      childOf pid' side' (setChild pid side b t) = setChild pid side b (childOf pid' side' t) := by
  intro t hnd hne hb
  by_cases hmem : pid ∈ t.ids
  · revert t
    -- along the walk to `pid`: compare `pid'` with the node reached, then with the side the walk takes
    apply slot_induction
    · intro lb par flag l r hl hr hc
      rw [childOf_here] at hc
      rw [setChild_here]
      by_cases hp : pid' = pid
      · subst hp
        have hs : side' ≠ side := fun e => hne (by rw [e])
        rw [childOf_here, childOf_here]
        cases side <;> cases side'
        · exact absurd rfl hs
        · exact (setChild_of_not_mem _ _ _ _ hl).symm
        · exact (setChild_of_not_mem _ _ _ _ hr).symm
        · exact absurd rfl hs
      · have hp' : pid ≠ pid' := fun e => hp e.symm
        rw [childOf_mk, childOf_mk, if_neg hp', if_neg hp']
        cases side <;> simp only [Bool.false_eq_true, if_false, if_true] at hc ⊢
        · rw [childOf_of_not_mem (t := relink pid false b) (by rwa [ids_relink]),
            childOf_of_not_mem hc]
          by_cases hm : pid' ∈ l.ids
          · rw [if_pos hm]; exact (setChild_childOf_of_not_mem hl).symm
          · rw [if_neg hm]; rfl
        · rw [ids_relink, if_neg hb, if_neg hc]
          exact (setChild_childOf_of_not_mem hr).symm
    · intro i lb par flag l r hi hl hr hnl ih hc
      rw [childOf_left hi hl] at hc
      rw [setChild_left hi hr, childOf_mk, childOf_mk]
      by_cases hp : i = pid'
      · rw [if_pos hp, if_pos hp]
        cases side'
        · exact (setChild_of_not_mem _ _ _ _ hr).symm
        · rfl
      · rw [if_neg hp, if_neg hp]
        by_cases hm : pid' ∈ l.ids
        · rw [if_pos hm, if_pos (mem_ids_setChild_of_mem hnl hl hm hc)]; exact ih hc
        · rw [if_neg hm, if_neg fun h => (ids_setChild_subset _ _ _ _ _ h).elim hm hb]
          exact (setChild_childOf_of_not_mem hr).symm
    · intro i lb par flag l r hi hl hr hnr ih hc
      rw [childOf_right hi hl] at hc
      rw [setChild_right hi hl, childOf_mk, childOf_mk]
      by_cases hp : i = pid'
      · rw [if_pos hp, if_pos hp]
        cases side'
        · rfl
        · exact (setChild_of_not_mem _ _ _ _ hl).symm
      · rw [if_neg hp, if_neg hp]
        by_cases hm : pid' ∈ l.ids
        · rw [if_pos hm, if_pos hm]; exact (setChild_childOf_of_not_mem hl).symm
        · rw [if_neg hm, if_neg hm]; exact ih hc
  · intro _
    rw [setChild_of_not_mem _ _ _ _ hmem, setChild_childOf_of_not_mem hmem]

/-- a slot that is neither the written one, nor below it, nor above it is unchanged -/
theorem setChild_childOf_unrelated {pid pid' : Nat} {side side' : Bool} {b t : PNode}
    (hnd : t.ids.Nodup) (hne : (pid', side') ≠ (pid, side)) (hb : pid' ∉ b.ids)
    (hbelow : pid' ∉ (childOf pid side t).ids) (habove : pid ∉ (childOf pid' side' t).ids) :
    childOf pid' side' (setChild pid side b t) = childOf pid' side' t := by
  rw [setChild_childOf_other t hnd hne hb hbelow, setChild_of_not_mem _ _ _ _ habove]

/-- with two slots, `_cross` performs exactly the two writes exchanging the two children -/
theorem cross_spec {f m : PNode} {pf pm sf sm : Nat} {ff fm : Bool}
    (hf : findNode f pf = .slot sf ff) (hm : findNode m pm = .slot sm fm) :
    cross f m pf pm =
      some (setChild sf ff (childOf sm fm m) f, setChild sm fm (childOf sf ff f) m) := by
  unfold cross; rw [hf, hm]

/-- … so the father's slot now holds the mother's subtree, re-linked, and symmetrically -/
theorem cross_spec_slots {ar : Nat → Nat} {f m f' m' : PNode} {pf pm sf sm : Nat} {ff fm : Bool}
    (hwf : WF ar f) (hwm : WF ar m)
    (hf : findNode f pf = .slot sf ff) (hm : findNode m pm = .slot sm fm)
    (h : cross f m pf pm = some (f', m')) :
    childOf sf ff f' = relink sf ff (childOf sm fm m) ∧
    childOf sm fm m' = relink sm fm (childOf sf ff f) := by
  rw [cross_spec hf hm] at h
  simp only [Option.some.injEq, Prod.mk.injEq] at h
  obtain ⟨rfl, rfl⟩ := h
  exact ⟨setChild_childOf_self hwf.nodup (findNode_slot_mem hwf hf),
    setChild_childOf_self hwm.nodup (findNode_slot_mem hwm hm)⟩

/-- if either `find_node` answers "no slot" (and neither raises) the pair is returned unchanged -/
theorem cross_no_slot {f m : PNode} {pf pm : Nat}
    (hf : findNode f pf ≠ .error) (hm : findNode m pm ≠ .error)
    (h : findNode f pf = .noSlot ∨ findNode m pm = .noSlot) :
    cross f m pf pm = some (f, m) := by
  unfold cross
  split
  · exact absurd ‹findNode f pf = .error› hf
  · exact absurd ‹findNode m pm = .error› hm
  · next hsf hsm =>
    rcases h with h | h
    · rw [hsf] at h; cases h
    · rw [hsm] at h; cases h
  · rfl

/-- `_cross` raises exactly when one of the `find_node` calls does -/
theorem cross_error_iff {f m : PNode} {pf pm : Nat} :
    cross f m pf pm = none ↔ findNode f pf = .error ∨ findNode m pm = .error := by
  unfold cross
  cases h1 : findNode f pf <;> cases h2 : findNode m pm <;> simp

/-- `_cross` conserves the combined multiset of nodes: identities, labels, and
    `(identity, label)` pairs (no node is lost, duplicated or relabelled). -/
theorem cross_multiset {ar : Nat → Nat} {f m f' m' : PNode} {pf pm : Nat}
    (hf : WF ar f) (hm : WF ar m) (h : cross f m pf pm = some (f', m')) :
    List.Perm (f'.ids ++ m'.ids) (f.ids ++ m.ids) ∧
    List.Perm (f'.pre.map lbl? ++ m'.pre.map lbl?) (f.pre.map lbl? ++ m.pre.map lbl?) ∧
    List.Perm (f'.nodes ++ m'.nodes) (f.nodes ++ m.nodes) := by
  have hp := cross_nodes_perm hf hm h
  refine ⟨cross_ids_perm hf hm h, ?_, hp⟩
  have := hp.map (fun x => some x.2)
  simpa only [List.map_append, ← lbls_eq_nodes] using this

/-- Frame for `_cross`: every node of the offspring is a node of one of the parents with the same
    identity and label, and — unless it is the root of one of the two exchanged subtrees, which
    is re-linked — the same stored parent and flag. -/
theorem cross_frame {f m f' m' : PNode} {pf pm : Nat} (h : cross f m pf pm = some (f', m')) :
    ∀ n ∈ f'.pre ++ m'.pre, ∃ n0 ∈ f.pre ++ m.pre, n0.id? = n.id? ∧ n0.lbl? = n.lbl? ∧
      ((n0.storedPar = n.storedPar ∧ n0.storedFlag = n.storedFlag) ∨
       ∃ sf ff sm fm, findNode f pf = .slot sf ff ∧ findNode m pm = .slot sm fm ∧
         (n = relink sf ff (childOf sm fm m) ∨ n = relink sm fm (childOf sf ff f))) := by
  -- one write of a sub-tree `b` of `s` into `t`: a node of the result is the re-linked `b`,
  -- or a node of `t` or `s` with its fields
  have key : ∀ (pid side) (b t s : PNode), (b ∈ b.pre → b ∈ s.pre) →
      ∀ n ∈ (setChild pid side b t).pre, ∃ n0, (n0 ∈ t.pre ∨ n0 ∈ s.pre) ∧ n0.id? = n.id? ∧
        n0.lbl? = n.lbl? ∧
        ((n0.storedPar = n.storedPar ∧ n0.storedFlag = n.storedFlag) ∨ n = relink pid side b) := by
    intro pid side b t s hb n hn
    rcases mem_pre_setChild pid side b t n hn with hr | ⟨n0, h0, h1, h2, h3⟩
    · obtain ⟨hbb, e | e⟩ := mem_pre_relink hr
      · exact ⟨b, Or.inr (hb hbb), e ▸ (id?_relink pid side b).symm,
          e ▸ (lbl?_relink pid side b).symm, Or.inr e⟩
      · exact ⟨n, Or.inr (mem_pre_trans (hb hbb) e), rfl, rfl, Or.inl ⟨rfl, rfl⟩⟩
    · exact ⟨n0, Or.inl h0, h1, h2, Or.inl h3⟩
  have sub : ∀ (pid side) (t : PNode), childOf pid side t ∈ (childOf pid side t).pre →
      childOf pid side t ∈ t.pre := fun pid side t hc =>
    (childOf_nil_or_mem pid side t).resolve_left (mem_pre_ne_nil _ _ hc)
  rcases cross_cases h with ⟨sf, ff, sm, fm, hsf, hsm, rfl, rfl⟩ | ⟨rfl, rfl⟩
  · intro n hn
    rcases List.mem_append.1 hn with hn | hn
    · obtain ⟨n0, h0, h1, h2, h3⟩ := key sf ff _ f m (sub sm fm m) n hn
      exact ⟨n0, List.mem_append.2 h0, h1, h2,
        h3.imp_right fun e => ⟨sf, ff, sm, fm, hsf, hsm, Or.inl e⟩⟩
    · obtain ⟨n0, h0, h1, h2, h3⟩ := key sm fm _ m f (sub sf ff f) n hn
      exact ⟨n0, List.mem_append.2 h0.symm, h1, h2,
        h3.imp_right fun e => ⟨sf, ff, sm, fm, hsf, hsm, Or.inr e⟩⟩
  · intro n hn; exact ⟨n, hn, rfl, rfl, Or.inl ⟨rfl, rfl⟩⟩

/-- a slot → the branch is written into exactly that slot -/
theorem mutate_spec {t b : PNode} {p pid : Nat} {side : Bool}
    (h : findNode t p = .slot pid side) : mutate t p b = some (setChild pid side b t) := by
  unfold mutate; rw [h]

/-- … and afterwards the slot holds the branch, re-linked -/
theorem mutate_spec_slot {ar : Nat → Nat} {t b : PNode} {p pid : Nat} {side : Bool}
    (hwf : WF ar t) (h : findNode t p = .slot pid side) :
    childOf pid side (setChild pid side b t) = relink pid side b :=
  setChild_childOf_self hwf.nodup (findNode_slot_mem hwf h)

/-- no slot → the grown tree replaces the whole individual -/
theorem mutate_no_slot {t b : PNode} {p : Nat} (h : findNode t p = .noSlot) :
    mutate t p b = some b := by
  unfold mutate; rw [h]

/-- `_mutate` raises exactly when `find_node` does -/
theorem mutate_error_iff {t b : PNode} {p : Nat} :
    mutate t p b = none ↔ findNode t p = .error := by
  unfold mutate
  cases h : findNode t p <;> simp

/-- node accounting for a mutation at a slot: the old child's nodes leave, the branch's arrive -/
theorem mutate_multiset {ar : Nat → Nat} {t b : PNode} {p pid : Nat} {side : Bool}
    (hwf : WF ar t) (h : findNode t p = .slot pid side) :
    List.Perm ((setChild pid side b t).ids ++ (childOf pid side t).ids) (t.ids ++ b.ids) ∧
    List.Perm ((setChild pid side b t).pre.map lbl? ++ (childOf pid side t).pre.map lbl?)
      (t.pre.map lbl? ++ b.pre.map lbl?) :=
  ⟨ids_setChild_perm hwf.nodup (findNode_slot_mem hwf h),
   lbls_setChild_perm hwf.nodup (findNode_slot_mem hwf h)⟩

/-- only the selected slot changed: every node of the mutant comes from the branch or is a node
    of the individual with the same identity, label, stored parent and flag -/
theorem mutate_frame {t b t' : PNode} {p pid : Nat} {side : Bool}
    (h : findNode t p = .slot pid side) (hm : mutate t p b = some t') :
    ∀ n ∈ t'.pre,
      n.id? ∈ b.ids.map some ∨
      ∃ n0 ∈ t.pre, n0.id? = n.id? ∧ n0.lbl? = n.lbl? ∧ n0.storedPar = n.storedPar ∧
        n0.storedFlag = n.storedFlag := by
  rw [mutate_spec h] at hm
  cases hm
  exact setChild_frame' pid side b t

/-! ### a concrete pair: the hypotheses are satisfiable and the results are as expected -/

section witness

/-- operator 7 is unary, every other operator binary -/
private def arW : Nat → Nat := fun n => if n = 7 then 1 else 2

private def T (i n : Nat) (p : Nat) (f : Bool) : PNode := mk i ⟨true, n, n + 1⟩ (some p) f nil nil
private def F (i op : Nat) (p : Option Nat) (f : Bool) (l r : PNode) : PNode :=
  mk i ⟨false, op, 0⟩ p f l r

/-- father: `op0( op7( x0 ), op1( x1, x0 ) )`, identities 0‥5 in pre-order -/
private def father : PNode :=
  F 0 0 none true
    (F 1 7 (some 0) true (T 2 0 1 true) nil)
    (F 3 1 (some 0) false (T 4 1 3 true) (T 5 0 3 false))

/-- mother: `op2( x1, op3( op1( x0, x1 ), x2 ) )`, identities 10‥16 -/
private def mother : PNode :=
  F 10 2 none true
    (T 11 1 10 true)
    (F 12 3 (some 10) false
      (F 13 1 (some 12) true (T 15 0 13 true) (T 16 1 13 false))
      (T 14 2 12 false))

example : WF arW father := wf_of_wfB (by decide +kernel)
example : WF arW mother := wf_of_wfB (by decide +kernel)
example : ∀ x ∈ father.ids, x ∉ mother.ids := by decide +kernel

-- position 2 of the father is terminal 2 (slot: left of node 1); position 3 of the mother is
-- function node 13, whose *parent* 12 hangs right of the root 10
example : findNode father 2 = .slot 1 true := by decide +kernel
example : findNode mother 3 = .slot 10 false := by decide +kernel
-- a function root raises, a child of the root gives "no slot"
example : findNode father 0 = .error := by decide +kernel
example : findNode father 1 = .noSlot := by decide +kernel
example : findNode father 9 = .noSlot := by decide +kernel

/-- the two selected subtrees are exchanged and re-linked, nothing else moves -/
example : cross father mother 2 3 = some
    (F 0 0 none true
      (F 1 7 (some 0) true
        (F 12 3 (some 1) true
          (F 13 1 (some 12) true (T 15 0 13 true) (T 16 1 13 false))
          (T 14 2 12 false))
        nil)
      (F 3 1 (some 0) false (T 4 1 3 true) (T 5 0 3 false)),
     F 10 2 none true (T 11 1 10 true) (T 2 0 10 false)) := by decide +kernel

example : (cross father mother 2 3).map (fun x => (wfB arW x.1, wfB arW x.2)) =
    some (true, true) := by decide +kernel
example : cross father mother 1 3 = some (father, mother) := by decide +kernel
example : cross father mother 0 3 = none := by decide +kernel

/-- mutation at terminal 4 with (a fresh copy of) the mother as the grown branch -/
example : mutate father 4 mother = some
    (F 0 0 none true
      (F 1 7 (some 0) true (T 2 0 1 true) nil)
      (F 3 1 (some 0) false (relink 3 true mother) (T 5 0 3 false))) := by decide +kernel
example : (mutate father 4 mother).map (wfB arW) = some true := by decide +kernel
example : mutate father 1 mother = some mother := by decide +kernel

end witness

end PNode
end Opy

#print axioms Opy.PNode.findNode_slot_designates
#print axioms Opy.PNode.setChild_frame'
#print axioms Opy.PNode.setChild_childOf_self
#print axioms Opy.PNode.setChild_childOf_other
#print axioms Opy.PNode.setChild_childOf_unrelated
#print axioms Opy.PNode.cross_spec
#print axioms Opy.PNode.cross_spec_slots
#print axioms Opy.PNode.cross_no_slot
#print axioms Opy.PNode.cross_error_iff
#print axioms Opy.PNode.cross_multiset
#print axioms Opy.PNode.cross_frame
#print axioms Opy.PNode.mutate_spec
#print axioms Opy.PNode.mutate_spec_slot
#print axioms Opy.PNode.mutate_no_slot
#print axioms Opy.PNode.mutate_error_iff
#print axioms Opy.PNode.mutate_multiset
#print axioms Opy.PNode.mutate_frame
