import OpyVerif.Proofs.Lemmas.OnlookerLemmas
/-!
C03 (part) — the data-dependent loop of `ABC._send_onlooker` (`Model/Onlooker.lean`):
its trial budget when it terminates, exactly which random streams make it terminate, and the
(probability-zero) streams on which it does not.
-/
namespace Opy

/-- **Trial budget of the onlooker phase.** With `n ≥ 1` agents, every pass covering the `n` agents,
    a terminating run ends with `n ≤ k ≤ 2n - 1`: at least `n` selections; at most `n - 1` before
    the last pass plus at most `n` in it. `k` is the number of objective calls of the phase. -/
theorem onlooker_bounds (n : Nat) (passes : List (List Bool)) (k : Nat) (hn : 0 < n)
    (hlen : ∀ p ∈ passes, p.length = n) (h : onlooker n 0 passes = some k) :
    n ≤ k ∧ k ≤ 2 * n - 1 := by
  rw [← onlookerTrace_fst] at h
  obtain ⟨⟨k', j⟩, hr, rfl⟩ := Option.map_eq_some_iff.1 h
  have hs := onlookerTrace_spec n passes 0
  rw [hr] at hs
  obtain ⟨h1, h2, h3, h4⟩ := hs
  refine ⟨h3, ?_⟩
  cases j with
  | zero => simp [hits_nil] at h2; omega
  | succ j =>
    have hlast := List.count_le_length (a := true) (l := passes[j])
    rw [hlen _ (List.getElem_mem h1)] at hlast
    have := h4 j (Nat.lt_succ_self j)
    rw [hits_take_succ h1] at h2
    omega

/-- **Termination criterion.** On a finite stream of passes the loop exits iff some prefix of the
    stream already contains `n` selections. (Holds for `n = 0` too: the empty prefix.) -/
theorem onlooker_terminates_iff (n : Nat) (passes : List (List Bool)) :
    onlooker n 0 passes ≠ none ↔ ∃ j, j ≤ passes.length ∧ n ≤ hits (passes.take j) := by
  have hs := onlookerTrace_spec n passes 0
  rw [← onlookerTrace_fst]
  cases hr : onlookerTrace n 0 passes with
  | none =>
    rw [hr] at hs
    exact ⟨fun h => absurd rfl h, fun ⟨j, hj, hn⟩ => by have := hs j hj; omega⟩
  | some r =>
    rw [hr] at hs
    exact ⟨fun _ => ⟨r.2, hs.1, by omega⟩, fun _ => Option.some_ne_none _⟩

/-- **Non-termination on unfair streams.** If no selection bit is ever `true` the loop never exits,
    whatever finite number of passes is supplied (the real loop then spins forever; such streams
    have probability zero because every `probs ≥ 0.1` when the fitnesses are non-negative). -/
theorem onlooker_diverges_on_unfair (n : Nat) (passes : List (List Bool)) (hn : 0 < n)
    (h : ∀ p ∈ passes, ∀ b ∈ p, b = false) : onlooker n 0 passes = none := by
  refine Decidable.byContradiction fun hne => ?_
  obtain ⟨j, _, hj⟩ := (onlooker_terminates_iff n passes).1 hne
  rw [hits_eq_zero_of_unfair _ fun p hp => h p (List.mem_of_mem_take hp)] at hj
  omega

/-- **Passes consumed.** When the loop exits it has consumed `j` passes, `j` the least prefix
    length containing `n` selections, and `k` is the number of selections in that prefix. -/
theorem onlooker_consumes (n : Nat) (passes : List (List Bool)) (k j : Nat)
    (h : onlookerTrace n 0 passes = some (k, j)) :
    onlooker n 0 passes = some k ∧ j ≤ passes.length ∧ k = hits (passes.take j) ∧ n ≤ k ∧
      ∀ j', j' < j → hits (passes.take j') < n := by
  have hs := onlookerTrace_spec n passes 0
  rw [h] at hs
  obtain ⟨h1, h2, h3, h4⟩ := hs
  refine ⟨?_, h1, by omega, h3, fun j' hj' => by have := h4 j' hj'; omega⟩
  rw [← onlookerTrace_fst, h]; rfl

/-- the budget is attained at both ends (n = 3): exactly `n`, and `2n - 1` -/
example : onlooker 3 0 [[true, true, true]] = some 3 := by decide +kernel
example : onlooker 3 0 [[true, true, false], [true, true, true]] = some 5 := by decide +kernel
example : onlooker 3 0 [[true, false, false], [false, false, false], [false, true, true]] = some 3 := by
  decide +kernel
example : onlookerTrace 3 0 [[true, false, false], [false, false, false], [false, true, true],
    [true, true, true]] = some (3, 3) := by decide +kernel
/-- passes run out -/
example : onlooker 3 0 [[true, false, false], [false, true, false]] = none := by decide +kernel
/-- an unfair stream -/
example : onlooker 2 0 [[false, false], [false, false], [false, false]] = none := by decide +kernel
/-- the loop does not start when there is no agent -/
example : onlooker 0 0 [[]] = some 0 := by decide +kernel
example : hits [[true, false], [true, true]] = 3 := by decide +kernel

#print axioms onlooker_bounds
#print axioms onlooker_terminates_iff
#print axioms onlooker_diverges_on_unfair
#print axioms onlooker_consumes

end Opy
