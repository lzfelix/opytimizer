import OpyVerif.Proofs.Lemmas.GrowLemmas
/-!
C08 — GROW builds proper expression trees on fresh identities within the depth budget, and a
deep copy is a proper tree of the same shape sharing no node with its source.

Every statement about `grow` is conditional on the run succeeding
(`grow cfg k ds nid = some (t, ds', nid')`); nothing is assumed about the configuration
(in particular not that operator arities are 1 or 2 — the model returns `none` otherwise),
about the draw list, or about `k = max_depth - min_depth`.
`grow_total` characterises success: the run succeeds iff the draws respect, one after the
other, the range the code requests at that point (`drawsOk`, in `Lemmas/GrowLemmas.lean`).
-/
namespace Opy
namespace PNode

section grow
variable {cfg : GrowCfg} {k : Nat} {ds : List Nat} {nid : Nat} {t : PNode} {ds' : List Nat} {nid' : Nat}

/-- a grown tree is well-formed: non-empty, parentless root, every stored parent / flag right,
    arities respected, no node twice -/
theorem grow_wf (h : grow cfg k ds nid = some (t, ds', nid')) : WF cfg.ar t :=
  have g := grow_grown h
  ⟨g.ne_nil, g.storedPar, g.kidsLinked, g.arity, g.ids_bounds.2.2⟩

/-- identities are drawn from `[nid, nid')` and the counter strictly advances -/
theorem grow_ids_fresh (h : grow cfg k ds nid = some (t, ds', nid')) :
    (∀ x ∈ t.ids, nid ≤ x ∧ x < nid') ∧ nid < nid' :=
  have g := (grow_grown h).ids_bounds
  ⟨g.1, g.2.1⟩

/-- the counter advances by exactly the number of nodes -/
theorem grow_counter (h : grow cfg k ds nid = some (t, ds', nid')) : nid' = nid + t.size :=
  (grow_grown h).counter

/-- any later call (any configuration, budget, draws) started from a counter at or beyond the
    returned one yields a tree sharing no node with the first -/
theorem grow_disjoint_of_le {cfg₂ : GrowCfg} {k₂ : Nat} {es es' : List Nat} {m m' : Nat} {t₂ : PNode}
    (h₁ : grow cfg k ds nid = some (t, ds', nid')) (hm : nid' ≤ m)
    (h₂ : grow cfg₂ k₂ es m = some (t₂, es', m')) : ∀ x ∈ t.ids, x ∉ t₂.ids := by
  intro x hx hx2
  exact Nat.lt_irrefl x
    (Nat.lt_of_lt_of_le ((grow_ids_fresh h₁).1 x hx).2 (Nat.le_trans hm ((grow_ids_fresh h₂).1 x hx2).1))

/-- two successive calls, the second continuing with the draws and the counter the first
    returned, build disjoint trees -/
theorem grow_disjoint {k₂ : Nat} {ds'' : List Nat} {nid'' : Nat} {t₂ : PNode}
    (h₁ : grow cfg k ds nid = some (t, ds', nid'))
    (h₂ : grow cfg k₂ ds' nid' = some (t₂, ds'', nid'')) : ∀ x ∈ t.ids, x ∉ t₂.ids :=
  grow_disjoint_of_le h₁ (Nat.le_refl _) h₂

/-- a freshly grown tree is no deeper than `k = max_depth - min_depth` (≤ `max_depth`) -/
theorem grow_depth_le (h : grow cfg k ds nid = some (t, ds', nid')) : t.maxD ≤ k :=
  (grow_grown h).maxD_le

/-- hence it has fewer than `2^(k+1)` nodes -/
theorem grow_size_lt (h : grow cfg k ds nid = some (t, ds', nid')) : t.size < 2 ^ (k + 1) :=
  Nat.lt_of_lt_of_le (size_lt_two_pow_maxD t) (Nat.pow_le_pow_right (by decide) (Nat.succ_le_succ (grow_depth_le h)))

/-- every node of the tree carries a label; a terminal's name is a terminal index of the space
    (and it holds that terminal's array, `name + 1`), a function node's name is an operator
    code of the space's function set -/
theorem grow_terminals (h : grow cfg k ds nid = some (t, ds', nid')) :
    ∀ n ∈ t.pre, ∃ lb, n.lbl? = some lb ∧
      (lb.isTerm = true → lb.name < cfg.nTerminals ∧ lb.arr = lb.name + 1) ∧
      (lb.isTerm = false → lb.name ∈ cfg.funcs ∧ lb.arr = 0) := by
  intro n hn
  have hl := List.mem_map_of_mem (f := lbl?) hn
  rw [lbls_eq_nodes] at hl
  obtain ⟨p, hp, e⟩ := List.mem_map.1 hl
  exact ⟨p.2, e.symm, (grow_grown h).lbls p hp⟩

/-- exactly one draw per node, taken from the front of the list -/
theorem grow_consumes (h : grow cfg k ds nid = some (t, ds', nid')) :
    ds' <:+ ds ∧ ds.length = ds'.length + t.size :=
  (grow_grown h).consumes

/-- totality: if every operator of the function set is unary or binary and the draws are
    those of a range-respecting oracle (`drawsOk cfg [k] ds`: enough draws, each inside the
    range requested at that point — `[0, nTerminals)` at budget 0, `[0, |funcs| + nTerminals)`
    above), GROW returns a tree. -/
theorem grow_total (hfun : ∀ op ∈ cfg.funcs, cfg.ar op = 1 ∨ cfg.ar op = 2)
    (hok : drawsOk cfg [k] ds = true) (nid : Nat) :
    ∃ t ds' nid', grow cfg k ds nid = some (t, ds', nid') := by
  obtain ⟨t, ds', nid', h, _⟩ := grow_total_aux hfun k [] ds nid hok
  exact ⟨t, ds', nid', grown_grow h⟩

/-- and only then (no assumption on the configuration) -/
theorem grow_some_drawsOk (h : grow cfg k ds nid = some (t, ds', nid')) :
    drawsOk cfg [k] ds = true :=
  (grow_grown h).drawsOk [] (by cases ds' <;> rfl)

end grow

section shift
variable {ar : Nat → Nat} {k : Nat} {t : PNode}

/-- a deep copy of a well-formed tree is well-formed -/
theorem shift_wf (h : WF ar t) : WF ar (shift k t) := by
  obtain ⟨h1, h2, h3, h4, h5⟩ := h
  refine ⟨mt shift_eq_nil.1 h1, ?_, shift_kidsLinked h3, shift_arity h4, shift_nodup h5⟩
  cases t with
  | nil => rfl
  | mk i lb par fl l r => simp only [storedPar] at h2; subst h2; rfl

/-- a deep copy onto identities beyond the source's shares no node with it -/
theorem shift_disjoint (h : ∀ x ∈ t.ids, x < k) : ∀ x ∈ (shift k t).ids, x ∉ t.ids := by
  intro x hx hx'
  rw [shift_ids, List.mem_map] at hx
  obtain ⟨y, _, rfl⟩ := hx
  exact Nat.not_lt.2 (Nat.le_add_left k y) (h _ hx')

/-- the copy has the same labels in pre-order, the same size and the same depth -/
theorem shift_shape (k : Nat) (t : PNode) :
    (shift k t).pre.map lbl? = t.pre.map lbl? ∧ (shift k t).size = t.size ∧
      (shift k t).maxD = t.maxD := by
  refine ⟨?_, shift_size k t, shift_maxD k t⟩
  rw [shift_pre, List.map_map]
  apply List.map_congr_left
  intro n _
  exact shift_lbl? k n

end shift

/-- budget 2, draws `1,0,2,3` (binary op, unary op, terminal 2 at budget 0, terminal 3-2=1);
    the fifth draw is left over -/
example : grow exCfg 2 [1, 0, 2, 3, 9] 0 = some (exTree, [9], 4) := by decide +kernel
example : ∀ op ∈ exCfg.funcs, exCfg.ar op = 1 ∨ exCfg.ar op = 2 := by decide +kernel
example : drawsOk exCfg [2] [1, 0, 2, 3, 9] = true := by decide +kernel
example : wfB exCfg.ar exTree = true ∧ exTree.maxD = 2 ∧ exTree.size = 4 := by decide +kernel
/-- at budget 0 the code draws from the terminals only: a draw fine above is out of range here -/
example : grow exCfg 0 [3] 0 = none ∧ drawsOk exCfg [0] [3] = false := by decide +kernel
example : (grow exCfg 1 [3] 0).isSome = true := by decide +kernel
/-- draws exhausted -/
example : grow exCfg 2 [1, 0, 2] 0 = none ∧ drawsOk exCfg [2] [1, 0, 2] = false := by decide +kernel
/-- a ternary operator: the model refuses although the draws are in range (`hfun` is needed) -/
example : grow exCfgBad 1 [0, 0, 0, 0] 0 = none ∧ drawsOk exCfgBad [1] [0, 0, 0, 0] = true := by decide +kernel
/-- two successive calls -/
example : grow exCfg 0 [2] 4 = some (mk 4 ⟨true, 2, 3⟩ none true nil nil, [], 5) := by decide +kernel
example : (shift 10 exTree).ids = [10, 11, 12, 13] ∧ wfB exCfg.ar (shift 10 exTree) = true ∧
    (∀ x ∈ exTree.ids, x < 10) := by decide +kernel
example : shift 10 exTree =
    mk 10 ⟨false, 7, 0⟩ none true
      (mk 11 ⟨false, 5, 0⟩ (some 10) true (mk 12 ⟨true, 2, 3⟩ (some 11) true nil nil) nil)
      (mk 13 ⟨true, 1, 2⟩ (some 10) false nil nil) := by decide +kernel

end PNode
end Opy

#print axioms Opy.PNode.grow_wf
#print axioms Opy.PNode.grow_ids_fresh
#print axioms Opy.PNode.grow_counter
#print axioms Opy.PNode.grow_disjoint_of_le
#print axioms Opy.PNode.grow_disjoint
#print axioms Opy.PNode.grow_depth_le
#print axioms Opy.PNode.grow_size_lt
#print axioms Opy.PNode.grow_terminals
#print axioms Opy.PNode.grow_consumes
#print axioms Opy.PNode.grow_total
#print axioms Opy.PNode.grow_some_drawsOk
#print axioms Opy.PNode.shift_ids
#print axioms Opy.PNode.shift_wf
#print axioms Opy.PNode.shift_disjoint
#print axioms Opy.PNode.shift_shape
