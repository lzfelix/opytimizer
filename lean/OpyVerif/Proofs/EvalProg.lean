import OpyVerif.Proofs.Lemmas.EvalLemmas
/-!
The expected `_evaluate` record (`Model/EvalProg.lean`) means `evalTree`, for every tree, every environment of terminal
arrays and over any carrier.
-/
namespace Opy

section
variable {α : Type} [Elem α]

/-- the expected reading of `_evaluate` is `evalTree`, for every tree and every environment of terminal arrays -/
theorem evalProg_is_evalTree (eps : α) (env : Nat → Option (List α)) :
    ∀ t : PNode, Expected.evalProg.run eps env t = evalTree eps env t := by
  intro t
  induction t with
  | nil => rfl
  | mk i lb p f l r ihl ihr =>
    obtain ⟨tm, c, a⟩ := lb
    cases tm with
    | true => simp [EvalProg.run, evalTree, Expected.evalProg]
    | false =>
      simp only [EvalProg.run, ihl, ihr]
      simp only [Expected.evalProg, EvalProg.pick, Bool.not_true, Bool.false_eq_true, if_false]
      rcases ops_cases eps c with ⟨_, _, nm, e, h1, h2, h3⟩ | ⟨_, _, _, nm, e, h1, h2, h3, h4⟩ | ⟨_, _, h1, h2, h3⟩
      · rw [evalTree_bin h3, h1]
        simp only [h2, if_true]
        cases evalTree eps env l <;> cases evalTree eps env r <;> rfl
      · rw [evalTree_un h3 h4, h1]
        simp only [h2, Bool.false_eq_true, if_false]
        cases evalTree eps env l <;> rfl
      · rw [evalTree_noop h2 h3, h1]
end
end Opy
