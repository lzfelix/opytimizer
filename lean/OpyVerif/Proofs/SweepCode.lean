import OpyVerif.Proofs.SweepCodeGeneric
import OpyVerif.Proofs.SweepCodePso
import OpyVerif.Proofs.SweepCodeGp
import OpyVerif.Proofs.SweepCodeAll
-- imports only (the `_evaluate` sweeps, one module per regenerated obligation): `harness/registry.py` names this module
