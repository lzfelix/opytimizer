import OpyVerif.Proofs.SweepProg
import OpyVerif.Generated.Sweeps.gpSweep_eq
/-!
The machine's sweep rule is what the *translated* `GP._evaluate` does: `Gen.gpSweep` is read from the current
working tree; some tie flag makes its loop body equal to `sweepAgent` / `takes` / `bestOf` of `Model/Machine` — the rule
every C02 / C03 / C20 machine theorem is about.  (One module per translated sweep: an unreadable rewrite of one `_evaluate`
leaves the statements about the other two standing.)
-/
namespace Opy

theorem code_gpSweep (cfg : Cfg) (hs : cfg.swarm = false) (a best : Ag) (v : Int) (fresh : Nat) (tp : Pos) :
    ∃ tie, Gen.gpSweep.body cfg.lbs cfg.ubs tp v fresh a best =
      (let a0 := { a with pos := clipPos cfg.lbs cfg.ubs tp }
       (sweepAgent cfg a0 v, if takes best (sweepAgent cfg a0 v) tie then bestOf (sweepAgent cfg a0 v) fresh else best)) := by
  rcases Gen.gpSweep_eq with h | h <;> rw [h]
  · exact ⟨false, gpSweep_is_machine_rule cfg hs a best v fresh tp⟩
  · exact ⟨true, gpSweepLe_is_machine_rule cfg hs a best v fresh tp⟩

end Opy
