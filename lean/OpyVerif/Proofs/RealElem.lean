import OpyVerif.Model.Num
import Mathlib.Analysis.SpecialFunctions.Trigonometric.Basic
import Mathlib.Analysis.SpecialFunctions.Log.Basic
import Mathlib.Analysis.SpecialFunctions.Sqrt
import Mathlib.Analysis.SpecialFunctions.Pow.Real
import Mathlib.Analysis.SpecialFunctions.Gamma.Basic
/-!
The proof-side instance of the scalar class: `Elem ℝ`, with every operation the mathematical one.
The `simp` lemmas below rewrite each class operation at `ℝ` into the Mathlib operation, so that a
Model formula instantiated at `ℝ` becomes an ordinary real expression after `simp`.
A second instance, equal to this one by `rfl`, is in `Proofs/RealElemB.lean` (used by C17 and its helpers only); a module
sees one of the two, never both: the header there says why.  (The namespace `Opy.RealElem` belongs to that other file:
its unfolding lemmas are `RealElem.add_def` …, the ones below are `elem_add` … directly in `Opy`.)
-/
set_option warn.classDefReducibility false
namespace Opy

/-- Deliberately *not* instance-reducible: the unfolding lemmas below then rewrite
`Elem.toAdd`-addition into `Real.instAdd`-addition without `simp` re-matching its own result. -/
noncomputable def instElemReal : Elem ℝ where
  add := fun a b => a + b
  sub := fun a b => a - b
  mul := fun a b => a * b
  div := fun a b => a / b
  neg := fun a => -a
  ofNat' := fun n => (n : ℝ)
  ofSci := fun m s e => (OfScientific.ofScientific m s e : ℝ)
  exp := Real.exp
  log := Real.log
  sin := Real.sin
  cos := Real.cos
  sqrt := Real.sqrt
  abs := fun x => |x|
  pow := Real.rpow
  pi := Real.pi
  gamma := Real.Gamma

attribute [instance] instElemReal

/-! ordinary real arithmetic still elaborates to Mathlib's instances, not to `Elem.toAdd` etc. -/
/-- info: Real.instAdd -/
#guard_msgs in #synth Add ℝ
/-- info: Real.instSub -/
#guard_msgs in #synth Sub ℝ
/-- info: Real.instMul -/
#guard_msgs in #synth Mul ℝ
/-- info: Real.instNeg -/
#guard_msgs in #synth Neg ℝ

section simp_lemmas
variable (a b : ℝ)

@[simp] theorem elem_add : @HAdd.hAdd ℝ ℝ ℝ (@instHAdd ℝ (Elem.toAdd)) a b = a + b := rfl
@[simp] theorem elem_sub : @HSub.hSub ℝ ℝ ℝ (@instHSub ℝ (Elem.toSub)) a b = a - b := rfl
@[simp] theorem elem_mul : @HMul.hMul ℝ ℝ ℝ (@instHMul ℝ (Elem.toMul)) a b = a * b := rfl
@[simp] theorem elem_div : @HDiv.hDiv ℝ ℝ ℝ (@instHDiv ℝ (Elem.toDiv)) a b = a / b := rfl
@[simp] theorem elem_neg : @Neg.neg ℝ (Elem.toNeg) a = -a := rfl
@[simp] theorem elem_ofNat' (n : ℕ) : (Elem.ofNat' n : ℝ) = (n : ℝ) := rfl
@[simp] theorem elem_ofSci (m : ℕ) (s : Bool) (e : ℕ) :
    (Elem.ofSci m s e : ℝ) = (OfScientific.ofScientific m s e : ℝ) := rfl
@[simp] theorem elem_exp : Elem.exp a = Real.exp a := rfl
@[simp] theorem elem_log : Elem.log a = Real.log a := rfl
@[simp] theorem elem_sin : Elem.sin a = Real.sin a := rfl
@[simp] theorem elem_cos : Elem.cos a = Real.cos a := rfl
@[simp] theorem elem_sqrt : Elem.sqrt a = Real.sqrt a := rfl
@[simp] theorem elem_abs : Elem.abs a = |a| := rfl
@[simp] theorem elem_pow : Elem.pow a b = a ^ b := rfl
@[simp] theorem elem_pi : (Elem.pi : ℝ) = Real.pi := rfl
@[simp] theorem elem_gamma : Elem.gamma a = Real.Gamma a := rfl

end simp_lemmas

theorem sumL_eq_sum (xs : List ℝ) : sumL xs = xs.sum := by
  unfold sumL
  simp only [elem_add, elem_ofNat', Nat.cast_zero]
  exact List.sum_eq_foldl.symm

end Opy
