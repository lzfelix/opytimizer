import OpyVerif.Proofs.TreesProg
import OpyVerif.Generated.Trees
/-!
C08 (construction clause) about the *translated* `TreeSpace._create_trees` / `_create_terminals`.
-/
namespace Opy
open PNode

/-- whatever the function set, the depth budget, the number of trees and the draws: the forest `_create_trees` (as read
    from the current source) returns consists of `n_trees` proper expression trees no two of which share a node, together
    with a best tree that is a proper tree sharing no node with any of them — the hypothesis of `runGPOps_popOK`,
    `code_mutation_popOK` and `code_crossover_popOK` -/
theorem code_create_trees (cfg : GrowCfg) (k n : Nat) (draws : List Nat) (nid : Nat) (P : Pop)
    (h : Gen.treesProg.run cfg k n draws nid = some P) :
    PopOK cfg.ar P ∧ P.trees.length = n ∧ P.best ≠ nil := by
  rw [Gen.treesProg_eq] at h
  obtain ⟨a, b, c, _⟩ := treesProg_popOK cfg k n draws nid P h
  exact ⟨a, b, c⟩

/-- the terminals are `n_terminals` separate agents of the declared shape (read with the record type of `_create_agents`) -/
theorem code_create_terminals : Gen.terminalsProg.listKind = .comprehension ∧ Gen.terminalsProg.elemIsAgentCtor = true ∧
    Gen.terminalsProg.countIsNAgents = true ∧ Gen.terminalsProg.extraStmts = 0 := by
  rw [Gen.terminalsProg_eq]; decide

end Opy
