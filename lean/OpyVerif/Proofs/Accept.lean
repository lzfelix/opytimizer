import OpyVerif.Model.Accept
import OpyVerif.Model.Machine
/-!
What a well-formed acceptance site guarantees, for every candidate, incumbent and oracle value:
the incumbent never gets worse, it ends up holding either its old pair or exactly the
candidate's (position, fitness) pair, on storage of its own; and a well-formed `best` site is the
machine's sweep rule (`takes` / `bestOf`) with `tie := (op = ≤)`.
The generated file proves `ok` of every site of the current source on every build.
-/
namespace Opy

theorem acceptStep_of_ok {r : AcceptRec} (h : r.okReplace = true) (cand inc other : Holder) (fresh : Nat) :
    (r.op = .lt ∨ r.op = .le) ∧
    acceptStep r cand inc other fresh =
      if r.op.eval cand.fit inc.fit then { pos := cand.pos, fit := cand.fit, ref := fresh } else inc := by
  simp only [AcceptRec.okReplace, Bool.and_eq_true, Bool.or_eq_true, beq_iff_eq] at h
  obtain ⟨⟨⟨⟨⟨⟨⟨hop, hl⟩, hr⟩, hp⟩, hc⟩, hf⟩, _⟩, _⟩ := h
  refine ⟨hop, ?_⟩
  simp only [acceptStep, hl, hr, hp, hf, hc, pick, if_true]

theorem eval_lt_le {op : Cmp} (hop : op = .lt ∨ op = .le) (x y : Int) :
    (x < y → op.eval x y = true) ∧ (op.eval x y = true → x ≤ y) := by
  rcases hop with rfl | rfl <;> simp only [Cmp.eval, decide_eq_true_eq] <;> omega

theorem accept_never_worse (r : AcceptRec) (h : r.okReplace = true) (cand inc other : Holder) (fresh : Nat) :
    (acceptStep r cand inc other fresh).fit ≤ inc.fit := by
  obtain ⟨hop, e⟩ := acceptStep_of_ok h cand inc other fresh
  rw [e]
  split
  · rename_i hc; exact (eval_lt_le hop _ _).2 hc
  · exact Int.le_refl _

theorem accept_bound (r : AcceptRec) (h : r.okReplace = true) (cand inc other : Holder) (fresh : Nat) :
    (acceptStep r cand inc other fresh).fit ≤ cand.fit := by
  obtain ⟨hop, e⟩ := acceptStep_of_ok h cand inc other fresh
  rw [e]
  split
  · exact Int.le_refl _
  · rename_i hn
    exact Int.not_lt.mp fun hlt => hn ((eval_lt_le hop cand.fit inc.fit).1 hlt)

/-- the incumbent afterwards holds its old pair, or exactly the candidate's pair on fresh storage -/
theorem accept_pair (r : AcceptRec) (h : r.okReplace = true) (cand inc other : Holder) (fresh : Nat) :
    acceptStep r cand inc other fresh = inc ∨
    acceptStep r cand inc other fresh = { pos := cand.pos, fit := cand.fit, ref := fresh } := by
  rw [(acceptStep_of_ok h cand inc other fresh).2]
  split
  · right; rfl
  · left; rfl

/-- no storage is shared with the candidate afterwards (given the candidate did not share before
    and `fresh` is fresh) -/
theorem accept_private (r : AcceptRec) (h : r.okReplace = true) (cand inc other : Holder) (fresh : Nat)
    (h1 : inc.ref ≠ cand.ref) (h2 : fresh ≠ cand.ref) :
    (acceptStep r cand inc other fresh).ref ≠ cand.ref := by
  rcases accept_pair r h cand inc other fresh with e | e <;> rw [e] <;> assumption

/-- strict improvement is always taken; a strictly worse candidate never -/
theorem accept_takes_better (r : AcceptRec) (h : r.okReplace = true) (cand inc other : Holder) (fresh : Nat) :
    (cand.fit < inc.fit → acceptStep r cand inc other fresh = { pos := cand.pos, fit := cand.fit, ref := fresh }) ∧
    (inc.fit < cand.fit → acceptStep r cand inc other fresh = inc) := by
  obtain ⟨hop, e⟩ := acceptStep_of_ok h cand inc other fresh
  rw [e]
  refine ⟨fun hlt => if_pos ((eval_lt_le hop _ _).1 hlt), fun hlt => if_neg fun hc => ?_⟩
  have := (eval_lt_le hop _ _).2 hc; omega

theorem takes_eq_eval (best a' : Ag) (tie : Bool) :
    takes best a' tie = (if tie then Cmp.le else Cmp.lt).eval a'.fit best.fit := by
  rw [Bool.eq_iff_iff]
  cases tie <;> simp [takes, Cmp.eval, Int.le_iff_lt_or_eq]

/-- a well-formed `best` site *is* the machine's sweep rule: `takes … (tie := op = ≤)` / `bestOf` -/
theorem best_site_is_sweep_rule (r : AcceptRec) (h : r.okReplace = true) (a' best : Ag) (other : Holder) (fresh : Nat) :
    let cand : Holder := { pos := a'.tpos, fit := a'.fit, ref := 0 }
    let inc : Holder := { pos := best.pos, fit := best.fit, ref := best.ref }
    let out := acceptStep r cand inc other fresh
    let model := if takes best a' (r.op == .le) then bestOf a' fresh else best
    out.pos = model.pos ∧ out.fit = model.fit ∧ out.ref = model.ref := by
  intro cand inc out model
  obtain ⟨hop, e⟩ := acceptStep_of_ok h cand inc other fresh
  have hop' : (if (r.op == .le) = true then Cmp.le else Cmp.lt) = r.op := by
    rcases hop with h1 | h1 <;> rw [h1] <;> rfl
  simp only [out, model, e, takes_eq_eval, hop']
  split <;> exact ⟨rfl, rfl, rfl⟩

/-- non-vacuity: the two shapes that occur (deep-copied fields / whole object), and a record that
    aliases the position is refused -/
def demoGood : AcceptRec :=
  { func := "ABC._evaluate_location", role := .greedy, op := .lt, lhs := .cand, rhs := .incumbent,
    posFrom := .cand, posCopy := true, fitFrom := .cand, both := true, unknown := 0 }
example : demoGood.ok = true := by decide +kernel
example : ({ demoGood with posCopy := false } : AcceptRec).ok = false := by decide +kernel
example : ({ demoGood with op := .gt } : AcceptRec).ok = false := by decide +kernel
example : ({ demoGood with lhs := .incumbent, rhs := .cand } : AcceptRec).ok = false := by decide +kernel

end Opy
