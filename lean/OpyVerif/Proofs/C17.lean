import OpyVerif.Proofs.Lemmas.BenchLemmas
/-!
C17 — each bundled benchmark function returns the closed form of its documentation; where the
documented minimum is mathematically coherent the function never goes below it and attains it at
the known minimiser; where it is not, a theorem shows why.

All statements are about the `ℝ` instance of the definitions in `Model/Bench.lean` (the same
definitions whose `Float` instance is compared against NumPy), through `Proofs/RealElemB.lean`.
`x : List ℝ` is the input array, `x.length` its dimension `n`; `List.replicate n c` is the point `(c, …, c)`.

* `<fn>_closed_form`  : the model at `ℝ` is the docstring's expression, in Mathlib notation.
* `<fn>_lower_bound`  : the documented minimum is a lower bound (on all of `ℝⁿ` unless a box
                         hypothesis is stated) — or, where the docstring says so (cosine_mixture,
                         styblinski_tang, schwefel), a true bound in place of an incoherent one.
* `<fn>_at_minimiser` : the documented minimum is attained at the known minimiser.
* `<fn>_documented_minimum_incoherent` : what is wrong with the documented minimum.
-/
namespace Opy
open RealElem -- the unfolding lemmas of `Proofs/RealElemB.lean` (not those of `RealElem.lean`, which are not in a namespace)

/-! The closed forms of all 17 active functions: once the folds, the integer powers and the numerals
are rewritten, what is left of a model formula at `ℝ` is the closed form by the definition of the
instance (`rfl`). -/

theorem sphere_closed_form (x : List ℝ) : sphere x = (x.map fun v => v ^ 2).sum := by
  simp [sphere, sumL_eq_sum]

theorem ackley1_closed_form (x : List ℝ) :
    ackley1 x =
      20 - 20 * Real.exp (-0.2 * √(1 / x.length * (x.map fun v => v ^ 2).sum)) + Real.exp 1
        - Real.exp (1 / x.length * (x.map fun v => Real.cos (2 * Real.pi * v)).sum) := by
  simp only [ackley1, sumL_eq_sum, pw2_real, ofNat'_def, Nat.cast_ofNat, Nat.cast_one]; rfl

theorem alpine1_closed_form (x : List ℝ) :
    alpine1 x = (x.map fun v => |v * Real.sin v + 0.1 * v|).sum := by
  simp [alpine1, sumL_eq_sum]

theorem alpine2_closed_form (x : List ℝ) :
    alpine2 x = -(x.map fun v => √v * Real.sin v).prod := by
  simp [alpine2, prodL_eq_prod]

theorem brown_closed_form (x : List ℝ) :
    brown x =
      ((x.zip x.tail).map fun p =>
        (p.1 ^ 2) ^ (p.2 ^ 2 + 1 : ℝ) + (p.2 ^ 2) ^ (p.1 ^ 2 + 1 : ℝ)).sum := by
  simp only [brown, sumL_eq_sum, pw2_real, ofNat'_def, Nat.cast_one]; rfl

theorem chung_reynolds_closed_form (x : List ℝ) :
    chung_reynolds x = ((x.map fun v => v ^ 2).sum) ^ 2 := by
  simp [chung_reynolds, sphere_closed_form]

theorem cosine_mixture_closed_form (x : List ℝ) :
    cosine_mixture x =
      0.1 * (x.map fun v => Real.cos (5 * Real.pi * v)).sum - (x.map fun v => v ^ 2).sum := by
  simp [cosine_mixture, sumL_eq_sum]

theorem csendes_closed_form (x : List ℝ) :
    csendes x = (x.map fun v => v ^ 6 * (2 + Real.sin (1 / v))).sum := by
  simp [csendes, sumL_eq_sum]

theorem deb1_closed_form (x : List ℝ) :
    deb1 x = -1 / x.length * (x.map fun v => Real.sin (5 * Real.pi * v) ^ 6).sum := by
  simp only [deb1, sumL_eq_sum, pw6_real, ofNat'_def, Nat.cast_ofNat, Nat.cast_one]; rfl

theorem deb2_closed_form (x : List ℝ) :
    deb2 x =
      -1 / x.length
        * (x.map fun v => Real.sin (5 * Real.pi * (v ^ (3 / 4 : ℝ) - 0.05)) ^ 6).sum := by
  simp only [deb2, sumL_eq_sum, pw6_real, ofNat'_def, Nat.cast_ofNat, Nat.cast_one]; rfl

theorem exponential_closed_form (x : List ℝ) :
    exponential x = -Real.exp (-0.5 * (x.map fun v => v ^ 2).sum) := by
  simp [exponential, sphere_closed_form]

theorem quintic_closed_form (x : List ℝ) :
    quintic x =
      (x.map fun v => |v ^ 5 - 3 * v ^ 4 + 4 * v ^ 3 + 2 * v ^ 2 - 10 * v - 4|).sum := by
  simp only [quintic, sumL_eq_sum, pw2_real, pw3_real, pw4_real, pw5_real, ofNat'_def, Nat.cast_ofNat]; rfl

theorem rastringin_closed_form (x : List ℝ) :
    rastringin x =
      10 * x.length + (x.map fun v => v ^ 2 - 10 * Real.cos (2 * Real.pi * v)).sum := by
  simp [rastringin, sumL_eq_sum]

theorem salomon_closed_form (x : List ℝ) :
    salomon x =
      1 - Real.cos (2 * Real.pi * √((x.map fun v => v ^ 2).sum))
        + 0.1 * √((x.map fun v => v ^ 2).sum) := by
  simp [salomon, sphere_closed_form]

theorem schumer_steiglitz_closed_form (x : List ℝ) :
    schumer_steiglitz x = (x.map fun v => v ^ 4).sum := by
  simp [schumer_steiglitz, sumL_eq_sum]

theorem schwefel_closed_form (x : List ℝ) :
    schwefel x = 418.9829 * x.length - (x.map fun v => v * Real.sin √|v|).sum := by
  simp [schwefel, sumL_eq_sum]

theorem styblinski_tang_closed_form (x : List ℝ) :
    styblinski_tang x = 1 / 2 * (x.map fun v => v ^ 4 - 16 * v ^ 2 + 5 * v).sum := by
  simp only [styblinski_tang, sumL_eq_sum, pw2_real, pw4_real, ofNat'_def, Nat.cast_ofNat, Nat.cast_one]

theorem sphere_lower_bound (x : List ℝ) : 0 ≤ sphere x := by
  rw [sphere_closed_form]
  exact sum_map_nonneg _ _ (fun v _ => sq_nonneg v)

theorem sphere_at_minimiser (n : ℕ) : sphere (List.replicate n (0 : ℝ)) = 0 := by
  simp [sphere_closed_form]

theorem chung_reynolds_lower_bound (x : List ℝ) : 0 ≤ chung_reynolds x := by
  rw [chung_reynolds_closed_form]
  exact sq_nonneg _

theorem chung_reynolds_at_minimiser (n : ℕ) : chung_reynolds (List.replicate n (0 : ℝ)) = 0 := by
  simp [chung_reynolds_closed_form]

theorem schumer_steiglitz_lower_bound (x : List ℝ) : 0 ≤ schumer_steiglitz x := by
  rw [schumer_steiglitz_closed_form]
  exact sum_map_nonneg _ _ (fun v _ => by positivity)

theorem schumer_steiglitz_at_minimiser (n : ℕ) :
    schumer_steiglitz (List.replicate n (0 : ℝ)) = 0 := by
  simp [schumer_steiglitz_closed_form]

theorem exponential_lower_bound (x : List ℝ) : -1 ≤ exponential x := by
  rw [exponential_closed_form]
  exact neg_le_neg (Real.exp_le_one_iff.mpr (mul_nonpos_of_nonpos_of_nonneg
    (neg_nonpos.mpr sci_nonneg) (sum_map_nonneg _ _ fun v _ => sq_nonneg v)))

theorem exponential_at_minimiser (n : ℕ) : exponential (List.replicate n (0 : ℝ)) = -1 := by
  simp [exponential_closed_form]

theorem rastringin_lower_bound (x : List ℝ) : 0 ≤ rastringin x := by
  rw [rastringin_closed_form]
  have h := card_mul_le_sum_map _ (-10) x fun v _ => rastringin_term_ge v
  rw [mul_neg, mul_comm] at h
  exact neg_le_iff_add_nonneg'.mp h

theorem rastringin_at_minimiser (n : ℕ) : rastringin (List.replicate n (0 : ℝ)) = 0 := by
  rw [rastringin_closed_form, sum_map_replicate, List.length_replicate, mul_zero, Real.cos_zero]
  ring

/-- minimum 0 at 0 (needs `np.e = exp 1`, and `n ≥ 1` for the `1 / n`) -/
theorem ackley1_lower_bound (x : List ℝ) (hn : 1 ≤ x.length) : 0 ≤ ackley1 x := by
  rw [ackley1_closed_form]
  have h1 : Real.exp (-0.2 * √(1 / x.length * (x.map fun v => v ^ 2).sum)) ≤ 1 :=
    Real.exp_le_one_iff.mpr (mul_nonpos_of_nonpos_of_nonneg (neg_nonpos.mpr sci_nonneg)
      (Real.sqrt_nonneg _))
  have h2 : Real.exp (1 / x.length * (x.map fun v => Real.cos (2 * Real.pi * v)).sum)
      ≤ Real.exp 1 :=
    Real.exp_le_exp.mpr (mean_map_le _ 1 x hn fun v _ => Real.cos_le_one _)
  exact sub_nonneg.mpr (h2.trans (le_add_of_nonneg_left
    (sub_nonneg.mpr (mul_le_of_le_one_right (by norm_num) h1))))

theorem ackley1_at_minimiser (n : ℕ) (hn : 1 ≤ n) : ackley1 (List.replicate n (0 : ℝ)) = 0 := by
  have hne : (n : ℝ) ≠ 0 := Nat.cast_ne_zero.mpr (Nat.pos_iff_ne_zero.mp hn)
  simp [ackley1_closed_form, hne]

theorem alpine1_lower_bound (x : List ℝ) : 0 ≤ alpine1 x := by
  rw [alpine1_closed_form]
  exact sum_map_nonneg _ _ (fun v _ => abs_nonneg _)

theorem alpine1_at_minimiser (n : ℕ) : alpine1 (List.replicate n (0 : ℝ)) = 0 := by
  simp [alpine1_closed_form]

theorem quintic_lower_bound (x : List ℝ) : 0 ≤ quintic x := by
  rw [quintic_closed_form]
  exact sum_map_nonneg _ _ (fun v _ => abs_nonneg _)

theorem quintic_at_minimiser (n : ℕ) :
    quintic (List.replicate n (-1 : ℝ)) = 0 ∧ quintic (List.replicate n (2 : ℝ)) = 0 := by
  constructor
  · rw [quintic_closed_form, sum_map_replicate]; norm_num
  · rw [quintic_closed_form, sum_map_replicate]; norm_num

theorem salomon_lower_bound (x : List ℝ) : 0 ≤ salomon x := by
  rw [salomon_closed_form]
  exact add_nonneg (sub_nonneg.mpr (Real.cos_le_one _))
    (mul_nonneg sci_nonneg (Real.sqrt_nonneg _))

theorem salomon_at_minimiser (n : ℕ) : salomon (List.replicate n (0 : ℝ)) = 0 := by
  simp [salomon_closed_form]

/-- minimum 0 at 0 (documented for `n ≥ 2`; for `n < 2` the sum is empty) -/
theorem brown_lower_bound (x : List ℝ) : 0 ≤ brown x := by
  rw [brown_closed_form]
  exact sum_map_nonneg _ _ (fun p _ =>
    add_nonneg (Real.rpow_nonneg (sq_nonneg _) _) (Real.rpow_nonneg (sq_nonneg _) _))

theorem brown_at_minimiser (n : ℕ) : brown (List.replicate n (0 : ℝ)) = 0 := by
  rw [brown_closed_form]
  refine sum_map_eq_zero _ _ fun ⟨a, b⟩ hp => ?_
  obtain ⟨ha, hb⟩ := List.of_mem_zip hp
  rw [List.eq_of_mem_replicate ha, List.eq_of_mem_replicate (List.mem_of_mem_tail hb)]
  norm_num

theorem deb1_lower_bound (x : List ℝ) (hn : 1 ≤ x.length) : -1 ≤ deb1 x := by
  rw [deb1_closed_form]
  exact neg_mean_sin_pow_six_ge _ x hn

theorem deb1_at_minimiser (n : ℕ) (hn : 1 ≤ n) : deb1 (List.replicate n (0.1 : ℝ)) = -1 := by
  have harg : 5 * Real.pi * 0.1 = Real.pi / 2 := by ring
  rw [deb1_closed_form]
  exact neg_mean_sin_pow_six_replicate _ n hn _ harg

set_option linter.unusedVariables false in
/-- infimum 0; the code evaluates `sin(1 / 0)` at a zero entry, so the bound is stated for inputs
    without zero entries, where the value is in fact strictly positive -/
theorem csendes_lower_bound (x : List ℝ) (hx : ∀ v ∈ x, v ≠ 0) : 0 ≤ csendes x := by
  rw [csendes_closed_form]
  exact sum_map_nonneg _ _ fun v _ => mul_nonneg (by positivity) (two_add_sin_pos _).le

/-- "minimum at 0" is an infimum that is never attained: wherever the code is defined (no zero
    entry) the value is strictly positive, and at a zero entry the code returns `nan`. -/
theorem csendes_documented_minimum_incoherent (x : List ℝ) (hn : 1 ≤ x.length)
    (hx : ∀ v ∈ x, v ≠ 0) : 0 < csendes x := by
  rw [csendes_closed_form]
  exact sum_map_pos _ _ hn fun v hv => mul_pos (Even.pow_pos ⟨3, rfl⟩ (hx v hv)) (two_add_sin_pos _)

/-! ### cosine_mixture — "minimum at 0.1 · n": that is the value at 0 and it is the *maximum* of
the documented formula; on the documented box `[-1, 1]ⁿ` the minimum is `−1.1 · n` at (1, …, 1) -/

theorem cosine_mixture_upper_bound (x : List ℝ) : cosine_mixture x ≤ 0.1 * x.length := by
  rw [cosine_mixture_closed_form]
  have h1 : (x.map fun v => Real.cos (5 * Real.pi * v)).sum ≤ x.length * 1 :=
    sum_map_le_card_mul _ 1 x (fun v _ => Real.cos_le_one _)
  have h2 : 0 ≤ (x.map fun v => v ^ 2).sum := sum_map_nonneg _ _ (fun v _ => sq_nonneg v)
  exact (sub_le_self _ h2).trans
    (mul_le_mul_of_nonneg_left (h1.trans_eq (mul_one _)) sci_nonneg)

theorem cosine_mixture_at_zero (n : ℕ) :
    cosine_mixture (List.replicate n (0 : ℝ)) = 0.1 * n := by
  simp [cosine_mixture_closed_form]

theorem cosine_mixture_at_ones (n : ℕ) :
    cosine_mixture (List.replicate n (1 : ℝ)) = -1.1 * n := by
  rw [cosine_mixture_closed_form, sum_map_replicate, sum_map_replicate, mul_one, cos_five_pi]
  ring

/-- lower bound on the documented box `[-1, 1]ⁿ` (attained at (1, …, 1), `cosine_mixture_at_ones`) -/
theorem cosine_mixture_lower_bound (x : List ℝ) (hbox : ∀ v ∈ x, -1 ≤ v ∧ v ≤ 1) :
    -1.1 * x.length ≤ cosine_mixture x := by
  rw [cosine_mixture_closed_form]
  have h1 : (x.length : ℝ) * (-1) ≤ (x.map fun v => Real.cos (5 * Real.pi * v)).sum :=
    card_mul_le_sum_map _ (-1) x (fun v _ => Real.neg_one_le_cos _)
  have h2 : (x.map fun v : ℝ => v ^ 2).sum ≤ (x.length : ℝ) * 1 :=
    sum_map_le_card_mul _ 1 x (fun v hv => (sq_le_one_iff_abs_le_one v).mpr (abs_le.mpr (hbox v hv)))
  calc -1.1 * (x.length : ℝ) = 0.1 * (x.length * (-1)) - x.length * 1 := by ring
    _ ≤ _ := sub_le_sub (mul_le_mul_of_nonneg_left h1 sci_nonneg) h2

/-- the documented `0.1 · n` is the maximum (attained at 0), and the point (1, …, 1) of the
    documented box has the strictly smaller value `−1.1 · n` -/
theorem cosine_mixture_documented_minimum_incoherent (n : ℕ) (hn : 1 ≤ n) :
    (∀ x : List ℝ, x.length = n → cosine_mixture x ≤ 0.1 * n)
      ∧ cosine_mixture (List.replicate n (0 : ℝ)) = 0.1 * n
      ∧ cosine_mixture (List.replicate n (1 : ℝ)) < 0.1 * n := by
  have hpos : (0 : ℝ) < n := Nat.cast_pos.mpr hn
  refine ⟨fun x hx => ?_, cosine_mixture_at_zero n, ?_⟩
  · have := cosine_mixture_upper_bound x
    rwa [hx] at this
  · rw [cosine_mixture_at_ones]
    exact mul_lt_mul_of_pos_right (by norm_num) hpos

/-! ### styblinski_tang — "minimum at −78.332" is the `n = 2` value; the minimum is
`≈ −39.16617 · n` at (−2.903534, …, −2.903534) -/

theorem styblinski_tang_replicate (n : ℕ) (a : ℝ) :
    styblinski_tang (List.replicate n a) = n * ((a ^ 4 - 16 * a ^ 2 + 5 * a) / 2) := by
  rw [styblinski_tang_closed_form, sum_map_replicate]
  ring

/-- a true lower bound, linear in the dimension (not the documented `−78.332`) -/
theorem styblinski_tang_lower_bound (x : List ℝ) : -39.2 * (x.length : ℝ) ≤ styblinski_tang x := by
  rw [styblinski_tang_closed_form]
  calc -39.2 * (x.length : ℝ) = 1 / 2 * (x.length * (-78.4)) := by ring
    _ ≤ _ := mul_le_mul_of_nonneg_left
      (card_mul_le_sum_map _ (-78.4) x fun v _ => styblinski_term_ge v) (by norm_num)

/-- one coordinate at the minimiser contributes a value in `(−39.17, −39.16)` -/
theorem styblinski_tang_at_minimiser_dim1 :
    -39.17 < styblinski_tang [(-2.903534 : ℝ)] ∧ styblinski_tang [(-2.903534 : ℝ)] < -39.16 := by
  have h := styblinski_tang_replicate 1 (-2.903534)
  simp only [List.replicate_one, Nat.cast_one, one_mul] at h
  rw [h]
  constructor <;> norm_num

/-- the documented `−78.332` is not the minimum for `n ≠ 2`: for `n = 1` it is never reached, for
    every `n ≥ 3` the function goes strictly below it inside the documented box `[-5, 5]ⁿ`; even
    for `n = 2` the value at (−2.903534, −2.903534) is below the (rounded) `−78.332`. -/
theorem styblinski_tang_documented_minimum_incoherent :
    (∀ v : ℝ, -78.332 < styblinski_tang [v])
      ∧ (∀ n : ℕ, 3 ≤ n → styblinski_tang (List.replicate n (-2.903534 : ℝ)) < -78.332)
      ∧ styblinski_tang [(-2.903534 : ℝ), -2.903534] < -78.332 := by
  refine ⟨fun v => ?_, fun n hn => ?_, ?_⟩
  · have h := styblinski_tang_lower_bound [v]
    simp only [List.length_singleton, Nat.cast_one, mul_one] at h
    exact lt_of_lt_of_le (by norm_num) h
  · rw [styblinski_tang_replicate]
    have h3 : (3 : ℝ) ≤ n := Nat.ofNat_le_cast.mpr hn
    have hc : ((-2.903534 : ℝ) ^ 4 - 16 * (-2.903534) ^ 2 + 5 * (-2.903534)) / 2 < -39 := by
      norm_num
    calc (n : ℝ) * _ ≤ 3 * _ := mul_le_mul_of_nonpos_right h3 (hc.le.trans (by norm_num))
      _ < 3 * (-39) := mul_lt_mul_of_pos_left hc (by norm_num)
      _ < -78.332 := by norm_num
  · have h := styblinski_tang_replicate 2 (-2.903534)
    simp only [List.replicate, Nat.cast_ofNat] at h
    rw [h]
    norm_num

/-! ### deb2 — the formula and its minimum −1 are coherent on `[0, 1]ⁿ` only; on the negative half
of the documented box `[-1, 1]ⁿ` the code's `x ** (3/4)` is `nan` (the `ℝ` model's `Real.rpow`
assigns a conventional value there, so the statements below are restricted to `x ≥ 0`) -/

set_option linter.unusedVariables false in
theorem deb2_lower_bound (x : List ℝ) (hn : 1 ≤ x.length) (hx : ∀ v ∈ x, 0 ≤ v) :
    -1 ≤ deb2 x := by
  rw [deb2_closed_form]
  exact neg_mean_sin_pow_six_ge _ x hn

/-- attained at `x_i = 0.15^(4/3) ≈ 0.0797`, where `x_i^(3/4) − 0.05 = 0.1` -/
theorem deb2_at_minimiser (n : ℕ) (hn : 1 ≤ n) :
    deb2 (List.replicate n ((0.15 : ℝ) ^ (4 / 3 : ℝ))) = -1 := by
  have hp : ((0.15 : ℝ) ^ (4 / 3 : ℝ)) ^ (3 / 4 : ℝ) = 0.15 := by
    rw [← Real.rpow_mul sci_nonneg]
    norm_num
  have harg : 5 * Real.pi * ((0.15 : ℝ) - 0.05) = Real.pi / 2 := by ring
  rw [deb2_closed_form]
  exact neg_mean_sin_pow_six_replicate _ n hn _ (by rw [hp, harg])

/-- "minimum at −2.808^n" is a rounded constant (the true value is `−2.80813118…^n`): inside the
    documented box `[0, 10]ⁿ` the function goes strictly below it -/
theorem alpine2_documented_minimum_incoherent (n : ℕ) (hn : 1 ≤ n) :
    alpine2 (List.replicate n (7.917 : ℝ)) < -((2.808 : ℝ) ^ n) := by
  rw [alpine2_closed_form, List.map_replicate, List.prod_replicate, neg_lt_neg_iff]
  exact pow_lt_pow_left₀ alpine2_term_gt sci_nonneg (by omega)

theorem schwefel_term_le (v : ℝ) : v * Real.sin √|v| ≤ |v| := by
  refine (le_abs_self _).trans ?_
  rw [abs_mul]
  exact mul_le_of_le_one_right (abs_nonneg v) (Real.abs_sin_le_one _)

/-- on the documented box `[-500, 500]ⁿ` the function is bounded below, linearly in the dimension
    (a true bound; the documented minimum value `0` is approached only near `420.9687`) -/
theorem schwefel_lower_bound_box (x : List ℝ) (hbox : ∀ v ∈ x, |v| ≤ 500) :
    (418.9829 - 500) * x.length ≤ schwefel x := by
  rw [schwefel_closed_form, sub_mul]
  exact sub_le_sub_left ((sum_map_le_card_mul _ 500 x fun v hv =>
    (schwefel_term_le v).trans (hbox v hv)).trans_eq (mul_comm _ _)) _

theorem schwefel_at_origin (n : ℕ) : schwefel (List.replicate n (0 : ℝ)) = 418.9829 * n := by
  rw [schwefel_closed_form, sum_map_replicate]; simp

/-- "has minimum at 0" cannot mean the origin: the point `(π²/4, …, π²/4)` of the documented box has a smaller value -/
theorem schwefel_origin_not_minimiser (n : ℕ) (hn : 1 ≤ n) :
    |Real.pi ^ 2 / 4| ≤ 500 ∧
      schwefel (List.replicate n (Real.pi ^ 2 / 4)) < schwefel (List.replicate n (0 : ℝ)) := by
  have hpos : 0 < Real.pi ^ 2 / 4 := by positivity
  have hsq : √|Real.pi ^ 2 / 4| = Real.pi / 2 := by
    rw [abs_of_pos hpos, show Real.pi ^ 2 / 4 = (Real.pi / 2) ^ 2 by ring,
      Real.sqrt_sq (by positivity)]
  constructor
  · rw [abs_of_pos hpos]
    exact (div_le_div_of_nonneg_right
      (pow_le_pow_left₀ Real.pi_pos.le Real.pi_lt_four.le 2) (by norm_num)).trans (by norm_num)
  · rw [schwefel_at_origin, schwefel_closed_form, sum_map_replicate, hsq, Real.sin_pi_div_two,
      List.length_replicate, mul_one]
    exact sub_lt_self _ (mul_pos (Nat.cast_pos.mpr hn) hpos)

/-! ## satisfiability: the model evaluates at concrete real points -/

example : sphere [(1 : ℝ), 2] = 5 := by
  simp [sphere_closed_form]; norm_num
example : quintic [(0 : ℝ)] = 4 := by
  simp [quintic_closed_form]
example : styblinski_tang [(1 : ℝ), -1] = -15 := by
  rw [styblinski_tang_closed_form]; norm_num
example : rastringin [(1 : ℝ)] = 1 := by
  simp [rastringin_closed_form]
example : chung_reynolds [(1 : ℝ), 2] = 25 := by
  simp [chung_reynolds_closed_form]; norm_num
example : cosine_mixture [(1 : ℝ)] = -1.1 := by
  have := cosine_mixture_at_ones 1
  simpa using this

end Opy

#print axioms Opy.sphere_closed_form
#print axioms Opy.ackley1_closed_form
#print axioms Opy.alpine1_closed_form
#print axioms Opy.alpine2_closed_form
#print axioms Opy.brown_closed_form
#print axioms Opy.chung_reynolds_closed_form
#print axioms Opy.cosine_mixture_closed_form
#print axioms Opy.csendes_closed_form
#print axioms Opy.deb1_closed_form
#print axioms Opy.deb2_closed_form
#print axioms Opy.exponential_closed_form
#print axioms Opy.quintic_closed_form
#print axioms Opy.rastringin_closed_form
#print axioms Opy.salomon_closed_form
#print axioms Opy.schumer_steiglitz_closed_form
#print axioms Opy.schwefel_closed_form
#print axioms Opy.styblinski_tang_closed_form
#print axioms Opy.sphere_lower_bound
#print axioms Opy.sphere_at_minimiser
#print axioms Opy.chung_reynolds_lower_bound
#print axioms Opy.chung_reynolds_at_minimiser
#print axioms Opy.schumer_steiglitz_lower_bound
#print axioms Opy.schumer_steiglitz_at_minimiser
#print axioms Opy.exponential_lower_bound
#print axioms Opy.exponential_at_minimiser
#print axioms Opy.rastringin_lower_bound
#print axioms Opy.rastringin_at_minimiser
#print axioms Opy.ackley1_lower_bound
#print axioms Opy.ackley1_at_minimiser
#print axioms Opy.alpine1_lower_bound
#print axioms Opy.alpine1_at_minimiser
#print axioms Opy.quintic_lower_bound
#print axioms Opy.quintic_at_minimiser
#print axioms Opy.salomon_lower_bound
#print axioms Opy.salomon_at_minimiser
#print axioms Opy.brown_lower_bound
#print axioms Opy.brown_at_minimiser
#print axioms Opy.deb1_lower_bound
#print axioms Opy.deb1_at_minimiser
#print axioms Opy.csendes_lower_bound
#print axioms Opy.csendes_documented_minimum_incoherent
#print axioms Opy.cosine_mixture_upper_bound
#print axioms Opy.cosine_mixture_at_zero
#print axioms Opy.cosine_mixture_at_ones
#print axioms Opy.cosine_mixture_lower_bound
#print axioms Opy.cosine_mixture_documented_minimum_incoherent
#print axioms Opy.styblinski_tang_replicate
#print axioms Opy.styblinski_tang_lower_bound
#print axioms Opy.styblinski_tang_at_minimiser_dim1
#print axioms Opy.styblinski_tang_documented_minimum_incoherent
#print axioms Opy.deb2_lower_bound
#print axioms Opy.deb2_at_minimiser
#print axioms Opy.alpine2_documented_minimum_incoherent
#print axioms Opy.schwefel_term_le
#print axioms Opy.schwefel_lower_bound_box
#print axioms Opy.schwefel_at_origin
#print axioms Opy.schwefel_origin_not_minimiser
