import OpyVerif.Model.InitProg
import OpyVerif.Proofs.C06
/-! The expected readings of the `_initialize_agents` methods are the construction models of `Model/Clip`. -/
namespace Opy

/-- search / tree spaces: the loop leaves the agents of `initSearch` (positions = the draws, bounds = the declared ones) -/
theorem searchInit_is_initSearch (lbs ubs : List Int) (v : Nat) (draws : List Pos) (h : lbs.length = ubs.length) :
    Expected.searchInit.run lbs ubs v draws = some (initSearch lbs ubs draws) := by
  -- the bounds written row by row are the two projections of `zip(lb, ub)`
  have e1 : InitLoop.agentBounds Expected.searchInit.writesLb (Expected.searchInit.pairs lbs ubs v)
      (List.replicate v keyZero) = lbs := List.map_fst_zip (Nat.le_of_eq h)
  have e2 : InitLoop.agentBounds Expected.searchInit.writesUb (Expected.searchInit.pairs lbs ubs v)
      (List.replicate v keyOne) = ubs := List.map_snd_zip (Nat.le_of_eq h.symm)
  rw [InitLoop.run, if_pos (by decide), e1, e2, initSearch]

/-- … and every row `j` was asked from `[lb_j, ub_j]` -/
theorem searchInit_ranges (lbs ubs : List Int) (v : Nat) :
    Expected.searchInit.ranges lbs ubs v = List.zip lbs ubs := by
  simp [InitLoop.ranges, Expected.searchInit, InitLoop.pairs, DrawRef.pick]

theorem searchInit_spec (lbs ubs : List Int) (v : Nat) (draws : List Pos) (h : lbs.length = ubs.length)
    (hd : ∀ p ∈ draws, InBox lbs ubs p) :
    ∃ agents, Expected.searchInit.run lbs ubs v draws = some agents ∧
      Expected.searchInit.ranges lbs ubs v = List.zip lbs ubs ∧
      ∀ a ∈ agents, InBox lbs ubs a.pos ∧ a.lb = lbs ∧ a.ub = ubs ∧ clipPos a.lb a.ub a.pos = a.pos := by
  refine ⟨_, searchInit_is_initSearch lbs ubs v draws h, searchInit_ranges lbs ubs v, fun a ha => ?_⟩
  obtain ⟨h1, h2, h3⟩ := initSearch_feasible lbs ubs draws hd a ha
  exact ⟨h1, h2, h3, initSearch_clip_noop lbs ubs draws hd a ha⟩

/-- hypercomplex spaces: unit draws, the agents keep the default unit bounds -/
theorem hyperInit_is_initHyper (lbs ubs : List Int) (v : Nat) (draws : List Pos) :
    Expected.hyperInit.run lbs ubs v draws = some (initHyper v draws) := if_pos (by decide)

theorem hyperInit_ranges (lbs ubs : List Int) (v : Nat) :
    Expected.hyperInit.ranges lbs ubs v = List.replicate v (keyZero, keyOne) := by
  simp [InitLoop.ranges, Expected.hyperInit, InitLoop.pairs, DrawRef.pick]

end Opy
