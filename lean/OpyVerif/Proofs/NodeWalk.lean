import OpyVerif.Model.NodeWalk
import OpyVerif.Proofs.Lemmas.TreeLemmas
/-!
The expected `pre_order` / `post_order` programs, run by the interpreter, are `PNode.preLoop` / `PNode.postLoop`
— for every tree, stack, output and amount of fuel.  `Proofs/C11.preOrder_eq_pre` / `postOrder_eq_post` then say
they are the recursive traversals.
-/
namespace Opy
open PNode

attribute [local simp] exec WCond.eval WExpr.eval

/-- the loop is `preLoop` on the stack and the output, whatever the fuel -/
theorem pre_loop_eq (fuel : Nat) (sf c : PNode) (st out : List PNode) :
    (exec fuel Expected.preOrderLoop { self_ := sf, cur := c, stack := st, out := out }).out = preLoop fuel st out := by
  induction fuel generalizing c st out with
  | zero => simp [Expected.preOrderLoop, preLoop]
  | succ fuel ih =>
    simp only [Expected.preOrderLoop, WStmt.block] at ih ⊢
    rw [exec]
    cases st with
    | nil => simp [preLoop]
    | cons n st =>
      cases hr : n.rightOf.isNil <;> cases hl : n.leftOf.isNil <;> simp [hr, hl, preLoop, ih]

/-- the whole method: `stacked = [self]`, then the loop, with `size` turns of fuel, is `preOrder` -/
theorem pre_program_is_preOrder (t : PNode) :
    runWalk Expected.preOrderInit Expected.preOrderLoop t.size t = t.preOrder := by
  simp [runWalk, Expected.preOrderInit, pre_loop_eq, preOrder]

/-- the loop is `postLoop` on cursor, stack and output, whatever the fuel — from every state the method can be
    in at the top of the outer loop (a cursor, or a non-empty stack) -/
theorem post_loop_eq (fuel : Nat) (sf c : PNode) (st out : List PNode) (h : c ≠ nil ∨ st ≠ []) :
    (exec fuel Expected.postOrderLoop { self_ := sf, cur := c, stack := st, out := out }).out = postLoop fuel c st out := by
  induction fuel generalizing c st out with
  | zero => simp [Expected.postOrderLoop, postLoop]
  | succ fuel ih =>
    simp only [Expected.postOrderLoop, WStmt.block] at ih ⊢
    rw [exec]
    cases c with
    | mk i lb par flag l r =>
      have hc : (mk i lb par flag l r).isNil = false := rfl
      cases hr : r.isNil <;>
        simp [hc, rightOf, leftOf, hr, postLoop, ih _ _ _ (Or.inr (List.cons_ne_nil _ _))]
    | nil =>
      have hnil : (nil : PNode).isNil = true := rfl
      cases st with
      | nil => simp at h
      | cons n st =>
        cases st with
        | nil => simp [hnil, postLoop, postLoop_nil_nil]
        | cons top rest =>
          -- the method's test `self.right is not None and stacked[-1] is self.right`
          by_cases hb : n.rightOf.isNil = false ∧ top.id? = n.rightOf.id? <;>
            simp [hnil, postLoop, hb, ih _ _ _ (Or.inr (List.cons_ne_nil _ _))]

theorem post_program_is_postOrder (t : PNode) (h : t ≠ nil) :
    runPost Expected.postOrderLoop (t.cost + 1) t = t.postOrder := by
  simp [runPost, postOrder, post_loop_eq _ t t [] [] (Or.inl h)]

end Opy
