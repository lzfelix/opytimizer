import OpyVerif.Model.FindProg
/-!
The expected `find_node` program is `PNode.findNode`, for every tree (well-formed or not) and every position.
-/
namespace Opy
open PNode

theorem findProg_is_findNode (t : PNode) (p : Nat) :
    Expected.findProg.run t p none = findNode t p := by
  unfold Expected.findProg findNode
  simp only [FProg.run]
  cases hp : t.preOrder[p]? with
  | none => simp
  | some node =>
    by_cases ht : node.isTermNode
    · cases hpar : node.storedPar <;> simp [ht, NRef.idOf, NRef.obj, hpar]
    · cases hpar : node.storedPar with
      | none => simp [ht, NRef.idOf, NRef.obj, hpar]
      | some pid =>
        cases hl : lookup pid t with
        | none => simp [ht, NRef.idOf, NRef.obj, hpar, hl]
        | some q =>
          cases hq : q.storedPar <;> simp [ht, NRef.idOf, NRef.obj, hpar, hl, hq]

end Opy
