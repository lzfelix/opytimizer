import OpyVerif.Proofs.Lemmas.RealLemmas
/-!
C16 — the weighted-sum multi-objective wrapper computes `Σ wᵢ · fᵢ(x)` over all components.
`weighted` is the formula of `Model/Num.lean` (a left fold with accumulator `0`), instantiated at `ℝ`;
`weightedG` (defined in `Lemmas/RealLemmas.lean`) is the same loop over an arbitrary semiring.
-/
namespace Opy

/-- the accumulation loop over any semiring is the sum of the products (commutativity is not needed) -/
theorem weighted_eq_sum_generic {R : Type} [Semiring R] (ws vals : List R) :
    weightedG ws vals = ((List.zip ws vals).map fun p => p.1 * p.2).sum := by
  rw [List.sum_eq_foldl, List.foldl_map]; rfl

/-- over `ℝ` the Model formula is the generic loop -/
theorem weighted_eq_generic (ws vals : List ℝ) : weighted ws vals = weightedG ws vals := by
  unfold weighted weightedG
  simp only [elem_add, elem_mul, elem_ofNat', Nat.cast_zero]

/-- the accumulation loop is the mathematical weighted sum -/
theorem weighted_eq_sum (ws vals : List ℝ) :
    weighted ws vals = ((List.zip ws vals).map fun p => p.1 * p.2).sum := by
  rw [weighted_eq_generic, weighted_eq_sum_generic]

/-- with as many weights as components the sum ranges over all `ws.length` of them -/
theorem weighted_all_components (ws vals : List ℝ) (h : ws.length = vals.length) :
    (List.zip ws vals).length = ws.length ∧
      weighted ws vals = ((List.zip ws vals).map fun p => p.1 * p.2).sum := by
  refine ⟨?_, weighted_eq_sum ws vals⟩
  rw [List.length_zip, h, min_self]

set_option linter.unusedVariables false in
/-- … and each summand is `ws[i] * vals[i]` (`h` is not used: the three index bounds suffice) -/
theorem weighted_component (ws vals : List ℝ) (h : ws.length = vals.length) (i : Nat)
    (hi : i < ((List.zip ws vals).map fun p => p.1 * p.2).length) (h1 : i < ws.length)
    (h2 : i < vals.length) :
    ((List.zip ws vals).map fun p => p.1 * p.2)[i] = ws[i] * vals[i] := by
  rw [List.getElem_map, List.getElem_zip]

theorem weighted_nil_left (vals : List ℝ) : weighted [] vals = 0 := by
  rw [weighted_eq_sum]; simp

theorem weighted_nil : weighted ([] : List ℝ) [] = 0 := weighted_nil_left []

theorem weighted_nil_right (ws : List ℝ) : weighted ws [] = 0 := by
  rw [weighted_eq_sum]; simp

theorem weighted_cons (w v : ℝ) (ws vals : List ℝ) :
    weighted (w :: ws) (v :: vals) = w * v + weighted ws vals := by
  rw [weighted_eq_sum, weighted_eq_sum]; simp

/-! ### algebra of the weighted function (what "can be optimised wherever a plain Function can" rests on) -/

theorem weighted_single (w v : ℝ) : weighted [w] [v] = w * v := by
  rw [weighted_cons, weighted_nil, add_zero]

/-- one component with weight one is that component -/
theorem weighted_single_one (v : ℝ) : weighted [(1 : ℝ)] [v] = v := by
  rw [weighted_single, one_mul]

/-- scaling every weight scales the value -/
theorem weighted_smul (c : ℝ) (ws vals : List ℝ) :
    weighted (ws.map (c * ·)) vals = c * weighted ws vals := by
  rw [weighted_eq_sum, weighted_eq_sum, ← List.sum_map_mul_left, List.zip_map_left, List.map_map]
  exact congrArg List.sum (List.map_congr_left fun p _ => mul_assoc c p.1 p.2)

/-- all weights zero: the value is zero whatever the components return -/
theorem weighted_zero_weights (n : ℕ) (vals : List ℝ) : weighted (List.replicate n (0 : ℝ)) vals = 0 := by
  rw [weighted_eq_sum]
  exact sum_map_eq_zero _ _ fun p hp => by
    rw [List.eq_of_mem_replicate (List.of_mem_zip hp).1, zero_mul]

/-- non-negative weights and component values bounded below by `m`: the value is at least `m · Σ w`
    (so a weighted function of benchmarks with minimum 0 never goes below 0) -/
theorem weighted_lower_bound (m : ℝ) (ws vals : List ℝ) (h : ws.length = vals.length)
    (hw : ∀ w ∈ ws, 0 ≤ w) (hv : ∀ v ∈ vals, m ≤ v) : m * ws.sum ≤ weighted ws vals := by
  rw [weighted_eq_sum]
  calc m * ws.sum = ((List.zip ws vals).map fun p => m * p.1).sum := by
        rw [List.sum_map_mul_left, List.map_fst_zip h.le]
    _ ≤ _ := List.sum_le_sum fun p hp => by
        rw [mul_comm]
        exact mul_le_mul_of_nonneg_left (hv _ (List.of_mem_zip hp).2) (hw _ (List.of_mem_zip hp).1)

/-- non-negative weights: the value is monotone in every component value -/
theorem weighted_mono (ws vals vals' : List ℝ) (h : vals.length = vals'.length)
    (hw : ∀ w ∈ ws, 0 ≤ w) (hv : ∀ i (h1 : i < vals.length) (h2 : i < vals'.length), vals[i] ≤ vals'[i]) :
    weighted ws vals ≤ weighted ws vals' := by
  rw [weighted_eq_sum, weighted_eq_sum]
  refine List.Forall₂.sum_le_sum (List.forall₂_iff_get.mpr ⟨by simp only [List.length_map, List.length_zip, h], fun i h1 h2 => ?_⟩)
  simp only [List.length_map, List.length_zip, lt_min_iff] at h1 h2
  simp only [List.get_eq_getElem, List.getElem_map, List.getElem_zip]
  exact mul_le_mul_of_nonneg_left (hv i h1.2 h2.2) (hw _ (List.getElem_mem h1.1))

example : (∀ w ∈ [(0.5 : ℝ), 2], 0 ≤ w) ∧ (∀ v ∈ [(3 : ℝ), 1], 1 ≤ v) := by
  constructor <;> intro x hx <;> simp at hx <;> rcases hx with rfl | rfl <;> norm_num
example : weighted [(1 : ℝ), 2, 3] [4, 5, 6] = 32 := by
  rw [weighted_eq_sum]; norm_num

example : weightedG [(1 : ℕ), 2, 3] [4, 5, 6] = 32 := by decide

example : ([(1 : ℝ), 2, 3]).length = ([(4 : ℝ), 5, 6]).length := rfl

#print axioms weighted_eq_sum
#print axioms weighted_eq_sum_generic
#print axioms weighted_eq_generic
#print axioms weighted_all_components
#print axioms weighted_component
#print axioms weighted_nil
#print axioms weighted_nil_left
#print axioms weighted_nil_right
#print axioms weighted_cons
#print axioms weighted_single_one
#print axioms weighted_single
#print axioms weighted_smul
#print axioms weighted_zero_weights
#print axioms weighted_lower_bound
#print axioms weighted_mono

end Opy
