import OpyVerif.Model.Skel
import OpyVerif.Proofs.C02
import OpyVerif.Proofs.C06
/-!
C01 — the objective is only evaluated at feasible points.

Two levels.  *Site level*: for an evaluation site whose operation list passes `opsOk`
(every `eval` preceded by a `clip` with no `assign` in between; a sweep site may rely on the
position being feasible on entry), every evaluated position is inside the box, whatever
values the assignments produce (the oracle positions are arbitrary keys, ±∞ included; only
the row count is fixed).  *Machine level*: the sweep evaluates exactly the current position of
the agent under the cursor and moves nobody, so after "clip, hook (positions untouched), sweep"
every swept argument is feasible; and the reported best position is one of the logged
arguments, hence feasible when they all are.
-/
namespace Opy

/-- semantics of an evaluation site: the current position is replaced by oracle values
    (`assign`), clipped (`clip`) or handed to the objective (`eval`); the result is the list
    of evaluated positions in order.  An exhausted oracle leaves the position alone. -/
def runOps (lbs ubs : List Int) : Pos → List SiteOp → List Pos → List Pos
  | _, [], _ => []
  | _, .assign :: rest, p :: orc => runOps lbs ubs p rest orc
  | cur, .assign :: rest, [] => runOps lbs ubs cur rest []
  | cur, .clip :: rest, orc => runOps lbs ubs (clipPos lbs ubs cur) rest orc
  | cur, .eval :: rest, orc => cur :: runOps lbs ubs cur rest orc

/-- the scanning invariant of `opsOk`: `ok = true` means "the current position is feasible" -/
theorem runOps_inBox (lbs ubs : List Int) (hb : BoundsOk lbs ubs) (ops : List SiteOp)
    (ok : Bool) (cur : Pos) (oracle : List Pos) (hlen : cur.length = lbs.length)
    (horc : ∀ p ∈ oracle, p.length = lbs.length) (hok : ok = true → InBox lbs ubs cur)
    (hops : opsOk ok ops = true) : ∀ q ∈ runOps lbs ubs cur ops oracle, InBox lbs ubs q := by
  fun_induction runOps lbs ubs cur ops oracle generalizing ok with
  | case1 => nofun
  | case2 _ rest p orc ih =>
    exact ih false (horc p (List.mem_cons_self ..)) (fun x hx => horc x (List.mem_cons_of_mem _ hx))
      nofun hops
  | case3 cur rest ih => exact ih false hlen horc nofun hops
  | case4 cur rest orc ih =>
    exact ih true ((clipPos_length ..).trans hlen) horc
      (fun _ => clipPos_inBox lbs ubs cur hb hlen.symm) hops
  | case5 cur rest orc ih =>
    simp only [opsOk, Bool.and_eq_true] at hops
    exact List.forall_mem_cons.2 ⟨hok hops.1, ih ok hlen horc hok hops.2⟩

theorem runOps_length (lbs ubs : List Int) (ops : List SiteOp) :
    ∀ (cur : Pos) (orc : List Pos), (runOps lbs ubs cur ops orc).length = (ops.filter (· == .eval)).length := by
  induction ops with
  | nil => intro cur orc; simp [runOps]
  | cons op rest ih =>
    intro cur orc
    cases op with
    | assign => cases orc <;> simp [runOps, ih]
    | clip => simp [runOps, ih]
    | eval => simp [runOps, ih]

/-- **C01 (trial site).** Every evaluation preceded by a clip with no assignment in between ⇒
    only feasible points are evaluated, whatever the assignments produce. -/
theorem site_evals_inBox (lbs ubs : List Int) (cur : Pos) (ops : List SiteOp) (oracle : List Pos)
    (hb : BoundsOk lbs ubs) (hlen : cur.length = lbs.length)
    (horc : ∀ p ∈ oracle, p.length = lbs.length) (hops : opsOk false ops = true) :
    ∀ q ∈ runOps lbs ubs cur ops oracle, InBox lbs ubs q :=
  runOps_inBox lbs ubs hb ops false cur oracle hlen horc (by simp) hops

/-- **C01 (sweep site).** A sweep may evaluate before any clip of its own: it relies on the
    position being feasible on entry. -/
theorem sweep_site_evals_inBox (lbs ubs : List Int) (cur : Pos) (ops : List SiteOp)
    (oracle : List Pos) (hb : BoundsOk lbs ubs) (hcur : InBox lbs ubs cur)
    (horc : ∀ p ∈ oracle, p.length = lbs.length) (hops : opsOk true ops = true) :
    ∀ q ∈ runOps lbs ubs cur ops oracle, InBox lbs ubs q :=
  runOps_inBox lbs ubs hb ops true cur oracle (inBox_length lbs ubs cur hcur) horc
    (fun _ => hcur) hops

theorem clipAll_event_inBox (cfg : Cfg) (s s' : St) (hb : BoundsOk cfg.lbs cfg.ubs)
    (h : apply cfg s .clipAll = some s')
    (hl : ∀ a ∈ s.pop, a.pos.length = cfg.lbs.length) :
    ∀ a ∈ s'.pop, InBox cfg.lbs cfg.ubs a.pos := by
  obtain ⟨rfl, _⟩ := clipAll_spec h
  exact List.forall_mem_map.2 fun b hb' => clipPos_inBox cfg.lbs cfg.ubs b.pos hb (hl b hb').symm

/-- the sweep evaluates exactly the current position of the agent under the cursor and
    moves nobody -/
theorem sweep_event_arg (cfg : Cfg) (s s' : St) (v : Int) (tie : Bool) (r : Nat)
    (h : apply cfg s (.sweep v tie r) = some s') :
    ∃ a, s.pop[s.cursor]? = some a ∧ s'.evals = s.evals ++ [(a.pos, v)] ∧
      (∀ j : Nat, (s'.pop[j]?).map Ag.pos = (s.pop[j]?).map Ag.pos) := by
  obtain ⟨a, hai, rfl, _⟩ := sweep_spec h
  refine ⟨a, hai, rfl, fun j => ?_⟩
  rw [← List.getElem?_map, ← List.getElem?_map,
    map_set_same _ s.pop s.cursor _ a hai (sweepAgent_pos cfg a v)]

/-- **C01 (sweep).** If every agent is feasible, then whatever sweep events the machine
    accepts, every objective call they add to the log has a feasible argument. -/
theorem C01_sweep_args_inBox (cfg : Cfg) (evs : List Ev) : ∀ (s s' : St),
    (∀ a ∈ s.pop, InBox cfg.lbs cfg.ubs a.pos) → (∀ e ∈ evs, e.isSweep = true) →
    run cfg s evs = some s' →
    ∃ new, s'.evals = s.evals ++ new ∧ new.length = evs.length ∧
      ∀ e ∈ new, InBox cfg.lbs cfg.ubs e.1 := by
  induction evs with
  | nil =>
    intro s s' _ _ h
    cases run_nil.1 h
    exact ⟨[], by simp, rfl, by simp⟩
  | cons e es ih =>
    intro s s' hin hsw h
    obtain ⟨s1, h1, h2⟩ := run_cons.1 h
    have he := hsw e (by simp)
    cases e with
    | sweep v tie r =>
      -- the argument is the position of the agent under the cursor, and nobody moves
      obtain ⟨a, hai, rfl, _⟩ := sweep_spec h1
      have ha : InBox cfg.lbs cfg.ubs a.pos := hin a (List.mem_of_getElem? hai)
      have hin1 : ∀ b ∈ s.pop.set s.cursor (sweepAgent cfg a v), InBox cfg.lbs cfg.ubs b.pos := by
        intro b hb
        rcases List.mem_or_eq_of_mem_set hb with hb | rfl
        · exact hin b hb
        · rw [sweepAgent_pos]; exact ha
      obtain ⟨new, hnew, hlen, hbox⟩ := ih _ s' hin1 (fun x hx => hsw x (by simp [hx])) h2
      exact ⟨(a.pos, v) :: new, by rw [hnew]; simp, by simp [hlen],
        List.forall_mem_cons.2 ⟨ha, hbox⟩⟩
    | _ => cases he

theorem C01_sweep_args_inBox_drop (cfg : Cfg) (evs : List Ev) (s s' : St)
    (hin : ∀ a ∈ s.pop, InBox cfg.lbs cfg.ubs a.pos) (hsw : ∀ e ∈ evs, e.isSweep = true)
    (h : run cfg s evs = some s') :
    ∀ e ∈ s'.evals.drop s.evals.length, InBox cfg.lbs cfg.ubs e.1 := by
  obtain ⟨new, hnew, _, hbox⟩ := C01_sweep_args_inBox cfg evs s s' hin hsw h
  rw [hnew, List.drop_left]; exact hbox

/-- **C01 (clip, hook, sweep).** The iteration pattern of every optimiser: space-wide limit
    enforcement, then the pre-evaluation hook (which leaves the positions alone), then the
    sweep.  Every argument the sweep hands to the objective is feasible — whatever the
    positions were before the clip (only the row count is fixed). -/
theorem C01_clip_hook_sweep (cfg : Cfg) (s s' : St) (pop' : List Ag) (sweeps : List Ev)
    (hb : BoundsOk cfg.lbs cfg.ubs)
    (hl : ∀ a ∈ s.pop, a.pos.length = cfg.lbs.length)
    (hpos : pop'.map (·.pos) = (s.pop.map (clipAg cfg)).map (·.pos))
    (hsw : ∀ e ∈ sweeps, e.isSweep = true)
    (h : run cfg s ([.clipAll, .hook pop'] ++ sweeps) = some s') :
    ∀ e ∈ s'.evals.drop s.evals.length, InBox cfg.lbs cfg.ubs e.1 := by
  obtain ⟨s1, h1, h⟩ := run_cons.1 h
  obtain ⟨s2, h2, h⟩ := run_cons.1 h
  have hbox1 := clipAll_event_inBox cfg s s1 hb h1 hl
  obtain ⟨rfl, _⟩ := clipAll_spec h1
  obtain ⟨rfl, _⟩ := hook_spec h2
  refine (C01_sweep_args_inBox_drop cfg sweeps _ s' (fun a ha => ?_) hsw h :)
  -- the hook left the clipped positions alone
  have : a.pos ∈ (s.pop.map (clipAg cfg)).map (·.pos) := hpos ▸ List.mem_map_of_mem ha
  obtain ⟨b, hb', hbe⟩ := List.mem_map.1 this
  exact hbe ▸ hbox1 b hb'

/-- **C01 (best).** In any accepted history from a fresh space in which every logged
    argument is feasible, the reported best position is feasible as soon as anything has
    been evaluated. -/
theorem C01_best_feasible (cfg : Cfg) (pop : List Ag) (best : Ag)
    (hp : ∀ a ∈ pop, a.fit = cfg.fmax) (hbf : best.fit = cfg.fmax) (hbt : best.tpos = best.pos)
    (evs : List Ev) (s' : St) (h : run cfg (initSt pop best) evs = some s')
    (hfeas : ∀ e ∈ s'.evals, InBox cfg.lbs cfg.ubs e.1) :
    s'.evals ≠ [] → InBox cfg.lbs cfg.ubs s'.best.pos := by
  intro hne
  have hi := inv_reach hp hbf h
  have ht := best_tpos_run cfg evs _ s' h hbt
  rcases hi.best with h1 | ⟨h1, _⟩
  · exact ht ▸ hfeas _ h1
  · exact absurd h1 hne

/-- a trial site: assign, clip, evaluate, assign again, clip, evaluate (oracle values far
    outside the box) -/
example : opsOk false [.assign, .clip, .eval, .assign, .clip, .eval] = true := by decide +kernel
example : runOps [-5, 0] [5, 0] [[0], [0]] [.assign, .clip, .eval, .assign, .clip, .eval]
    [[[-99], [7]], [[99999999999], [-1]]] = [[[-5], [0]], [[5], [0]]] := by decide +kernel
/-- a site that evaluates after an unclipped assignment is rejected by `opsOk`, and indeed
    evaluates an infeasible point -/
example : opsOk true [.eval, .assign, .eval] = false := by decide +kernel
example : runOps [0] [9] [[1]] [.eval, .assign, .eval] [[[42]]] = [[[1]], [[42]]] := by decide +kernel

def c01Cfg : Cfg := { fmax := 100, swarm := false, lbs := [0], ubs := [9] }
def c01Pop : List Ag :=
  [{ pos := [[-3]], tpos := [[-3]], fit := 100, ref := 1 }, { pos := [[50]], tpos := [[50]], fit := 100, ref := 2 }]
def c01Best : Ag := { pos := [[0]], tpos := [[0]], fit := 100, ref := 0 }
/-- the population as the hook leaves it: positions as clipped (records re-anchored) -/
def c01Pop' : List Ag :=
  [{ pos := [[0]], tpos := [[0]], fit := 100, ref := 1 }, { pos := [[9]], tpos := [[9]], fit := 100, ref := 2 }]

/-- machine level: out-of-range population, clip, hook, two sweeps, all accepted; the two new
    arguments are the clipped positions -/
example : ((run c01Cfg (initSt c01Pop c01Best)
      ([.clipAll, .hook c01Pop'] ++ [.sweep 10 false 3, .sweep 4 false 4])).map
        (fun s => (s.evals, s.best.pos)))
    = some ([([[0]], 10), ([[9]], 4)], [[9]]) := by decide +kernel
example : c01Pop'.map (·.pos) = (c01Pop.map (clipAg c01Cfg)).map (·.pos) := by decide +kernel
example : BoundsOk c01Cfg.lbs c01Cfg.ubs := by simp [BoundsOk, c01Cfg]
example : ∀ a ∈ c01Pop, a.pos.length = c01Cfg.lbs.length := by decide +kernel
example : ∀ e ∈ [Ev.sweep 10 false 3, Ev.sweep 4 false 4], e.isSweep = true := by decide +kernel

#print axioms site_evals_inBox
#print axioms sweep_site_evals_inBox
#print axioms clipAll_event_inBox
#print axioms sweep_event_arg
#print axioms C01_sweep_args_inBox
#print axioms C01_sweep_args_inBox_drop
#print axioms C01_clip_hook_sweep
#print axioms C01_best_feasible

end Opy
