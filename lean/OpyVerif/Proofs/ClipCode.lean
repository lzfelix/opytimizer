import OpyVerif.Proofs.ClipCodeAgent
import OpyVerif.Proofs.ClipCodeSearch
import OpyVerif.Proofs.ClipCodeHyper
-- imports only (the three `check_limits` loops, one module per regenerated obligation): `harness/registry.py` names this module
