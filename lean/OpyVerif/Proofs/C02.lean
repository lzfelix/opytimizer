import OpyVerif.Proofs.Lemmas.MachineInv
/-!
C02 — the reported best is the best point actually evaluated, with its true fitness.

Quantification: every configuration `cfg`, every initial population whose fitnesses are the
sentinel, every event list the abstract machine accepts (i.e. every objective, every random
stream, every update arithmetic, every population size and iteration count whose observable
behaviour follows the rules of `apply`).  The hypothesis `f < FLOAT_MAX` of the property is the
guard `v < cfg.fmax` inside `apply` (an objective that returns `FLOAT_MAX` is rejected there;
that excluded point is known finding K6).
-/
namespace Opy

theorem swept_of_dump {cfg : Cfg} {s s' : St} {evs : List Ev}
    (h : run cfg s (evs ++ [.dump]) = some s') : s'.swept = true := by
  obtain ⟨s1, _, h2⟩ := run_concat.1 h
  obtain ⟨rfl, hsw, _⟩ := dump_spec h2
  exact hsw

section
variable (cfg : Cfg) (pop : List Ag) (best : Ag)
variable (hp : ∀ a ∈ pop, a.fit = cfg.fmax) (hb : best.fit = cfg.fmax)
include hp hb

/-- the state at return is the state at the last record: same best, same log -/
theorem C02_at_return (evs : List Ev) (s' : St)
    (h : run cfg (initSt pop best) evs = some s') (hsw : s'.swept = true) :
    (∀ e ∈ s'.evals, s'.best.fit ≤ e.2) ∧ (s'.best.tpos, s'.best.fit) ∈ s'.evals := by
  have hi := inv_reach hp hb h
  exact ⟨(hi.lower hsw).2, hi.best.resolve_right fun h3 => (hi.lower hsw).1 h3.1⟩

/-- **C02 (minimum).** Whenever an iteration record is written — after any accepted history —
    the best fitness is a lower bound of every value the objective has returned so far. -/
theorem C02_best_is_min (evs : List Ev) (s' : St)
    (h : run cfg (initSt pop best) (evs ++ [.dump]) = some s') :
    ∀ e ∈ s'.evals, s'.best.fit ≤ e.2 :=
  (C02_at_return cfg pop best hp hb _ s' h (swept_of_dump h)).1

/-- **C02 (attained).** …and the best agent's (position, fitness) is literally one of the
    (argument, value) pairs of the objective-call log: the minimum is attained there. -/
theorem C02_best_evaluated (evs : List Ev) (s' : St)
    (h : run cfg (initSt pop best) (evs ++ [.dump]) = some s') :
    (s'.best.tpos, s'.best.fit) ∈ s'.evals :=
  (C02_at_return cfg pop best hp hb _ s' h (swept_of_dump h)).2

/-- **C02 (never increases).** The best fitnesses recorded by the successive iteration
    records of any accepted history are non-increasing. -/
theorem C02_best_antitone (evs : List Ev) (s' : St)
    (h : run cfg (initSt pop best) evs = some s') :
    s'.bestLog.Pairwise (fun earlier later => later ≤ earlier) :=
  (inv_reach hp hb h).logSorted
end

/-- The best's `tpos` is its `pos` throughout (so "truthful" speaks about the reported
    position). -/
theorem best_tpos_apply (cfg : Cfg) (s s' : St) (e : Ev) (h : apply cfg s e = some s')
    (hb : s.best.tpos = s.best.pos) : s'.best.tpos = s'.best.pos := by
  cases e with
  | hook pop' => obtain ⟨rfl, _⟩ := hook_spec h; exact hb
  | update pop' => obtain ⟨rfl, _⟩ := update_spec h; exact hb
  | trial p v pop' => obtain ⟨rfl, _⟩ := trial_spec h; exact hb
  | trialSwap p v i => obtain ⟨a, _, rfl, _⟩ := trialSwap_spec h; rfl
  | sweep v tie r =>
    obtain ⟨a, _, rfl, _⟩ := sweep_spec h
    dsimp only; split
    · rfl
    · exact hb
  | clipAll => obtain ⟨rfl, _⟩ := clipAll_spec h; exact hb
  | dump => obtain ⟨rfl, _⟩ := dump_spec h; exact hb

theorem best_tpos_run (cfg : Cfg) (evs : List Ev) : ∀ s s', run cfg s evs = some s' →
    s.best.tpos = s.best.pos → s'.best.tpos = s'.best.pos :=
  run_induction (fun s => s.best.tpos = s.best.pos) (best_tpos_apply cfg) evs

/-! ### the hypothesis `f < FLOAT_MAX` is needed (known finding K6)

With an objective that returns the sentinel itself the strict test of the sweep never fires:
the machine rejects the very first sweep event, and on the real code the best agent stays
the never-evaluated initial one.  Concrete witness (one agent, value = fmax): -/
theorem C02_sentinel_rejected :
    apply { fmax := 7, swarm := false, lbs := [0], ubs := [9] }
      { (initSt [{ pos := [[1]], tpos := [[1]], fit := 7, ref := 1 }]
          { pos := [[0]], tpos := [[0]], fit := 7, ref := 0 }) with cursor := 0 }
      (.sweep 7 false 2) = none := by decide

/-! ### non-vacuity: a concrete accepted history (2 agents, one iteration with a trial) -/
def demoCfg : Cfg := { fmax := 100, swarm := false, lbs := [0], ubs := [9] }
def demoPop : List Ag :=
  [{ pos := [[1]], tpos := [[1]], fit := 100, ref := 1 }, { pos := [[5]], tpos := [[5]], fit := 100, ref := 2 }]
def demoBest : Ag := { pos := [[0]], tpos := [[0]], fit := 100, ref := 0 }
def demoEvs : List Ev :=
  [.hook demoPop, .sweep 10 false 3, .sweep 4 false 4,
   .trial [[2]] 3 [{ pos := [[2]], tpos := [[2]], fit := 3, ref := 1 }, { pos := [[5]], tpos := [[5]], fit := 4, ref := 2 }],
   .clipAll,
   .hook [{ pos := [[2]], tpos := [[2]], fit := 3, ref := 1 }, { pos := [[5]], tpos := [[5]], fit := 4, ref := 2 }],
   .sweep 3 false 5, .sweep 4 false 6, .dump]
example : ((run demoCfg (initSt demoPop demoBest) demoEvs).map (fun s => (s.best.fit, s.bestLog, s.evals.length)))
    = some (3, [3], 5) := by decide +kernel

end Opy
