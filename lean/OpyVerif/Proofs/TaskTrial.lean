import OpyVerif.Proofs.TaskRun
import OpyVerif.Proofs.Accept
import OpyVerif.Proofs.C01
import OpyVerif.Proofs.Lemmas.GreedyLemmas
/-!
The greedy optimisers (ABC, CS, FPA; HS / IHS when read on the sorted memory, see `TaskTrialCode`) at the level of a whole task: their update is no longer an arbitrary
oracle but a sequence of *trials*, each one an evaluation site (`Site`: assignments, the trial's own `check_limits`, the
objective call — `Generated/Skeletons: evalSites`) followed by an acceptance site (`AcceptRec` — `Generated/Accepts:
acceptSites`), both as the translator reads them.  What stays an oracle: which individual a trial is compared with, the
positions its assignments produce (all arithmetic, all draws), how many trials an update makes.

Theorems (for every iteration count, objective, trial script): every objective call of a trial is inside the box (C01);
every per-agent record written by `history.dump` is truthful — its fitness is the objective at its position, which is
feasible — and from one record to the next no agent's fitness increases (C20); when a task ends the best agent is below
every value the objective returned, to a sweep or to a trial (C02, `task_greedy_best_is_min`).
`runOps`, the semantics of a site's operation list, is defined in `Proofs/C01.lean`.
-/
namespace Opy
namespace Task

/-- one trial: the index of the population member it is compared with and the positions its assignments produce -/
structure Trial where
  who : Nat
  proposals : List Pos

def agOf (h : Holder) : Ag := { pos := h.pos, tpos := h.pos, fit := h.fit, ref := h.ref }
def holderOf (a : Ag) : Holder := { pos := a.pos, fit := a.fit, ref := a.ref }

/-- a trial on the population: the incumbent's position goes through the site's operations; the last position handed to the
    objective is the candidate; the acceptance site decides.  Returns the population and the objective calls made.
    Storage identities are not followed at this level (the candidate's and the fresh `ref` are 0), and the `other` operand of `acceptStep`, which no
    replacing site reads, is the incumbent. -/
def trialStep (site : Site) (acc : AcceptRec) (lbs ubs : List Int) (f : Pos → Int) (pop : List Ag) (t : Trial) :
    List Ag × List (Pos × Int) :=
  match pop[t.who]? with
  | none => (pop, [])
  | some a =>
    let qs := runOps lbs ubs a.pos site.ops t.proposals
    match qs.getLast? with
    | none => (pop, [])
    | some q =>
      let r := acceptStep acc { pos := q, fit := f q, ref := 0 } (holderOf a) (holderOf a) 0
      (pop.set t.who (agOf r), qs.map fun q => (q, f q))

def greedyUpdate (site : Site) (acc : AcceptRec) (lbs ubs : List Int) (f : Pos → Int) :
    List Ag → List Trial → List Ag × List (Pos × Int)
  | pop, [] => (pop, [])
  | pop, t :: ts =>
    let r := trialStep site acc lbs ubs f pop t
    let rest := greedyUpdate site acc lbs ubs f r.1 ts
    (rest.1, r.2 ++ rest.2)

/-- the oracle of a greedy task: updates are trial scripts, the hook observes, there is no post step; `script` is indexed
    by the task-wide oracle step `TaskSt.k` (hooks count too: hook 0, update 1, hook 2, update 3, …), not by the iteration -/
def greedyOracle (site : Site) (acc : AcceptRec) (lbs ubs : List Int) (f : Pos → Int) (script : Nat → List Trial) : TaskOracle :=
  { f := f, upd := fun k st => ((greedyUpdate site acc lbs ubs f st.1 (script k)).1, st.2),
    updEv := fun k st => (greedyUpdate site acc lbs ubs f st.1 (script k)).2,
    hook := fun _ st => st, post := fun _ st => st }

/-- feasible and truthful: inside the box, and the stored fitness is the objective at the stored position -/
def Settled (lbs ubs : List Int) (f : Pos → Int) (a : Ag) : Prop := InBox lbs ubs a.pos ∧ a.fit = f a.pos

/-- point-wise `≤` of two fitness vectors of the same length: the `Prop` twin of `rowLeB` (`leAll_iff`; index-wise: `rowLeB_iff`) -/
def LeAll : List Int → List Int → Prop
  | [], [] => True
  | x :: xs, y :: ys => x ≤ y ∧ LeAll xs ys
  | _, _ => False

theorem leAll_iff (xs ys : List Int) : LeAll xs ys ↔ rowLeB xs ys = true := by
  induction xs generalizing ys with
  | nil => cases ys <;> simp [LeAll, rowLeB]
  | cons x xs ih => cases ys <;> simp [LeAll, rowLeB, ih]

theorem leAll_refl (xs : List Int) : LeAll xs xs := (leAll_iff _ _).2 (rowLeB_refl xs)

theorem leAll_trans {xs ys zs : List Int} (h1 : LeAll xs ys) (h2 : LeAll ys zs) : LeAll xs zs :=
  (leAll_iff _ _).2 (rowLeB_trans _ _ _ ((leAll_iff _ _).1 h1) ((leAll_iff _ _).1 h2))

theorem leAll_set (pop : List Ag) (i : Nat) (a a' : Ag) (hi : pop[i]? = some a) (h : a'.fit ≤ a.fit) :
    LeAll ((pop.set i a').map (·.fit)) (pop.map (·.fit)) :=
  (leAll_iff _ _).2 (fitsLe_set pop i a a' hi h)

section
variable (site : Site) (acc : AcceptRec) (lbs ubs : List Int) (f : Pos → Int)

theorem trialStep_cases (pop : List Ag) (t : Trial) :
    trialStep site acc lbs ubs f pop t = (pop, []) ∨
    ∃ a q, pop[t.who]? = some a ∧ (runOps lbs ubs a.pos site.ops t.proposals).getLast? = some q ∧
      trialStep site acc lbs ubs f pop t =
        (pop.set t.who (agOf (acceptStep acc { pos := q, fit := f q, ref := 0 } (holderOf a) (holderOf a) 0)),
         (runOps lbs ubs a.pos site.ops t.proposals).map fun q => (q, f q)) := by
  unfold trialStep
  cases hw : pop[t.who]? with
  | none => exact Or.inl rfl
  | some a =>
    cases hq : (runOps lbs ubs a.pos site.ops t.proposals).getLast? with
    | none => exact Or.inl (by simp only [hq])
    | some q => exact Or.inr ⟨a, q, rfl, hq, by simp only [hq]⟩

/-- **C01, trial level.**  A site that passes `opsOk` hands only feasible positions to the objective, whatever its
    assignments produce. -/
theorem trialStep_evals_inBox (hb : BoundsOk lbs ubs) (hs : opsOk false site.ops = true) (pop : List Ag) (t : Trial)
    (hp : ∀ a ∈ pop, a.pos.length = lbs.length) (ht : ∀ p ∈ t.proposals, p.length = lbs.length) :
    ∀ e ∈ (trialStep site acc lbs ubs f pop t).2, InBox lbs ubs e.1 := by
  rcases trialStep_cases site acc lbs ubs f pop t with e | ⟨a, q, hw, _, e⟩ <;> rw [e]
  · exact List.forall_mem_nil _
  · exact List.forall_mem_map.mpr
      (site_evals_inBox lbs ubs a.pos site.ops t.proposals hb (hp a (List.mem_of_getElem? hw)) ht hs)

/-- **C20, trial level.**  With an acceptance site of the replacing kind nobody's fitness increases and the population keeps
    its size, whatever the trial proposes. -/
theorem trialStep_le (ha : acc.okReplace = true) (pop : List Ag) (t : Trial) :
    LeAll ((trialStep site acc lbs ubs f pop t).1.map (·.fit)) (pop.map (·.fit)) := by
  rcases trialStep_cases site acc lbs ubs f pop t with e | ⟨a, q, hw, _, e⟩ <;> rw [e]
  · exact leAll_refl _
  · exact leAll_set pop t.who a _ hw
      (accept_never_worse acc ha { pos := q, fit := f q, ref := 0 } (holderOf a) (holderOf a) 0)

theorem trialStep_settled (hb : BoundsOk lbs ubs) (hs : opsOk false site.ops = true) (ha : acc.okReplace = true)
    (pop : List Ag) (t : Trial) (hp : ∀ a ∈ pop, Settled lbs ubs f a) (ht : ∀ p ∈ t.proposals, p.length = lbs.length) :
    ∀ a ∈ (trialStep site acc lbs ubs f pop t).1, Settled lbs ubs f a := by
  rcases trialStep_cases site acc lbs ubs f pop t with e | ⟨a, q, hw, hq, e⟩ <;> rw [e]
  · exact hp
  · have hamem : a ∈ pop := List.mem_of_getElem? hw
    intro x hx
    rcases List.mem_or_eq_of_mem_set hx with hx | rfl
    · exact hp x hx
    · -- the agent at `t.who` keeps its pair or takes the candidate's: the last position the site evaluated, and its value
      rcases accept_pair acc ha { pos := q, fit := f q, ref := 0 } (holderOf a) (holderOf a) 0 with e' | e' <;> rw [e']
      · exact hp a hamem
      · exact ⟨site_evals_inBox lbs ubs a.pos site.ops t.proposals hb (inBox_length lbs ubs a.pos (hp a hamem).1) ht hs q
          (List.mem_of_getLast? hq), rfl⟩

theorem greedyUpdate_evals_inBox (hb : BoundsOk lbs ubs) (hs : opsOk false site.ops = true) (ha : acc.okReplace = true)
    (pop : List Ag) (ts : List Trial) (hp : ∀ a ∈ pop, Settled lbs ubs f a)
    (ht : ∀ t ∈ ts, ∀ p ∈ t.proposals, p.length = lbs.length) :
    (∀ e ∈ (greedyUpdate site acc lbs ubs f pop ts).2, InBox lbs ubs e.1) ∧
    LeAll ((greedyUpdate site acc lbs ubs f pop ts).1.map (·.fit)) (pop.map (·.fit)) ∧
    ∀ a ∈ (greedyUpdate site acc lbs ubs f pop ts).1, Settled lbs ubs f a := by
  induction ts generalizing pop with
  | nil => exact ⟨List.forall_mem_nil _, leAll_refl _, hp⟩
  | cons t ts ih =>
    simp only [greedyUpdate]
    have h0 := trialStep_evals_inBox site acc lbs ubs f hb hs pop t
      (fun a ha' => inBox_length lbs ubs a.pos (hp a ha').1) (ht t List.mem_cons_self)
    obtain ⟨i1, i2, i3⟩ := ih (trialStep site acc lbs ubs f pop t).1
      (trialStep_settled site acc lbs ubs f hb hs ha pop t hp (ht t List.mem_cons_self))
      (fun t' ht' => ht t' (List.mem_cons_of_mem _ ht'))
    exact ⟨List.forall_mem_append.mpr ⟨h0, i1⟩, leAll_trans i2 (trialStep_le site acc lbs ubs f ha pop t), i3⟩

end

/-- the space-wide clip, run with the declared bounds `dl`, `du`, leaves the positions of the box `lbs … ubs` where they are
    (search spaces: the box is the declared one; hypercomplex spaces: the unit box, whatever was declared) -/
def ClipFixes (c : ClipLoop) (dl du lbs ubs : List Int) : Prop :=
  ∀ pos : Pos, InBox lbs ubs pos → c.runPos dl du pos = pos

-- from here on `dl du` are the declared bounds handed to `runTask` and `lbs ubs` the box the statements speak of
-- (`Proofs/TaskRun.lean` calls the two pairs `lbs ubs` and `blo bhi`)
section
variable (p : TaskProg) (site : Site) (acc : AcceptRec) (dl du : List Int) (lbs ubs : List Int) (f : Pos → Int) (script : Nat → List Trial)

/-- what holds of a greedy task from its first sweep on -/
structure GInv (lbs ubs : List Int) (f : Pos → Int) (s : TaskSt) : Prop where
  /-- every agent is feasible and its stored fitness is the objective at its position -/
  settled : ∀ a ∈ s.pop, Settled lbs ubs f a
  /-- the population's fitness vector is point-wise at most every recorded one -/
  below : ∀ d ∈ s.dumps, LeAll (s.pop.map (·.fit)) (d.1.map (·.2))
  /-- … and every later record is point-wise at most every earlier one -/
  chain : s.dumps.Pairwise (fun d d' => LeAll (d'.1.map (·.2)) (d.1.map (·.2)))
  /-- every per-agent record is feasible and truthful -/
  truth : ∀ d ∈ s.dumps, ∀ r ∈ d.1, InBox lbs ubs r.1 ∧ r.2 = f r.1

theorem execEv_clip_fixed (o : TaskOracle) (hc : ClipFixes p.clip dl du lbs ubs) (s : TaskSt)
    (h : ∀ a ∈ s.pop, InBox lbs ubs a.pos) : p.execEv dl du o s .clipAll = s := by
  have e : (s.pop.map fun a => { a with pos := p.clip.runPos dl du a.pos }) = s.pop :=
    (List.map_congr_left fun a ha => by rw [hc a.pos (h a ha)]).trans (List.map_id' _)
  simp only [TaskProg.execEv, e]

theorem sweep_settles (o : TaskOracle) (hr : IsRule p.sweep false) (s : TaskSt) (h : ∀ a ∈ s.pop, InBox lbs ubs a.pos) :
    ∀ a ∈ (p.execEv dl du o s .sweep).pop, Settled lbs ubs o.f a := by
  simp only [TaskProg.execEv, sweepPop_pop_generic p.sweep hr]
  exact List.forall_mem_map.mpr fun x hx => ⟨h x hx, rfl⟩

theorem ginv_execEv (hb : BoundsOk lbs ubs) (hs : opsOk false site.ops = true) (ha : acc.okReplace = true)
    (hc : ClipFixes p.clip dl du lbs ubs) (hr : IsRule p.sweep false)
    (hscript : ∀ k, ∀ t ∈ script k, ∀ q ∈ t.proposals, q.length = lbs.length)
    (s : TaskSt) (ev : SEv) (h : GInv lbs ubs f s) :
    GInv lbs ubs f (p.execEv dl du (greedyOracle site acc lbs ubs f script) s ev) := by
  obtain ⟨h1, h2, h3, h4⟩ := h
  cases ev with
  | update =>
    obtain ⟨_, u2, u3⟩ := greedyUpdate_evals_inBox site acc lbs ubs f hb hs ha s.pop (script s.k) h1 (hscript s.k)
    exact ⟨u3, fun d hd => leAll_trans u2 (h2 d hd), h3, h4⟩
  | hook => exact ⟨h1, h2, h3, h4⟩
  | post => exact ⟨h1, h2, h3, h4⟩
  | clipAll => rw [execEv_clip_fixed p dl du lbs ubs _ hc s fun a ha' => (h1 a ha').1]; exact ⟨h1, h2, h3, h4⟩
  | sweep =>
    -- truthful agents keep their fitness in a sweep
    have ef : (p.execEv dl du (greedyOracle site acc lbs ubs f script) s .sweep).pop.map (·.fit) = s.pop.map (·.fit) := by
      simp only [TaskProg.execEv, sweepPop_pop_generic p.sweep hr, List.map_map]
      exact List.map_congr_left fun a ha' => (h1 a ha').2.symm
    exact ⟨sweep_settles p dl du lbs ubs _ hr s fun a ha' => (h1 a ha').1, fun d hd => ef ▸ h2 d hd, h3, h4⟩
  | dump =>
    have hp := Chain.push leAll_refl ⟨h2, h3⟩ (s.pop.map record, record s.best) (record_fits s.pop)
    exact ⟨h1, hp.1, hp.2, List.forall_mem_append.mpr ⟨h4, List.forall_mem_singleton.mpr (List.forall_mem_map.mpr h1)⟩⟩

/-- **C20 (and C01 for trials), task level.**  A task of a greedy optimiser — good skeleton, a space clip that leaves feasible
    positions alone, the machine's sweep rule, an evaluation site that clips before it evaluates, an acceptance site of the
    replacing kind — started from a feasible population: for every number of iterations, every objective and every trial
    script, every agent is feasible and truthful from the first sweep on (so every trial evaluates inside the box,
    `greedyUpdate_evals_inBox`), every per-agent record is feasible and truthful, and from record to record no agent's
    fitness increases. -/
theorem task_greedy (hg : Good true p.skel = true) (hb : BoundsOk lbs ubs) (hs : opsOk false site.ops = true)
    (ha : acc.okReplace = true) (hc : ClipFixes p.clip dl du lbs ubs) (hr : IsRule p.sweep false)
    (hscript : ∀ k, ∀ t ∈ script k, ∀ q ∈ t.proposals, q.length = lbs.length)
    (pop : List Ag) (best : Ag) (h0 : ∀ a ∈ pop, InBox lbs ubs a.pos) (N : Nat) :
    GInv lbs ubs f (p.runTask dl du (greedyOracle site acc lbs ubs f script) (TaskSt.start pop best) N) :=
  runTask_inv p dl du _ hg (GInv lbs ubs f) (fun ev s => ginv_execEv p site acc dl du lbs ubs f script hb hs ha hc hr hscript s ev)
    (TaskSt.start pop best) ⟨sweep_settles p dl du lbs ubs _ hr (TaskSt.start pop best) h0, List.forall_mem_nil _, List.Pairwise.nil,
      List.forall_mem_nil _⟩ N

end

/-! ### C02 for greedy tasks: the best agent bounds every objective call, trials included -/

def Matched (pop : List Ag) (log : List (Pos × Int)) : Prop := ∀ e ∈ log, ∃ a ∈ pop, a.fit ≤ e.2

theorem Matched.mono {pop pop' : List Ag} {log : List (Pos × Int)} (h : Matched pop log)
    (hle : LeAll (pop'.map (·.fit)) (pop.map (·.fit))) : Matched pop' log := by
  obtain ⟨hl, hle⟩ := (fitsLe_iff pop' pop).1 ((leAll_iff _ _).1 hle)
  intro e he
  obtain ⟨a, ha, hae⟩ := h e he
  obtain ⟨i, hi, rfl⟩ := List.getElem_of_mem ha
  exact ⟨pop'[i]'(hl ▸ hi), List.getElem_mem _, Int.le_trans (hle i (hl ▸ hi) hi) hae⟩

section
variable (site : Site) (acc : AcceptRec) (lbs ubs : List Int) (f : Pos → Int)

theorem trialStep_matched (ha : acc.okReplace = true) (hone : (site.ops.filter (· == .eval)).length = 1)
    (pop : List Ag) (t : Trial) (log : List (Pos × Int)) (h : Matched pop log) :
    Matched (trialStep site acc lbs ubs f pop t).1 (log ++ (trialStep site acc lbs ubs f pop t).2) := by
  refine List.forall_mem_append.mpr ⟨h.mono (trialStep_le site acc lbs ubs f ha pop t), ?_⟩
  rcases trialStep_cases site acc lbs ubs f pop t with e | ⟨a, q, hw, hq, e⟩ <;> rw [e]
  · exact List.forall_mem_nil _
  · -- the site evaluated `q` and nothing else; the agent now at `t.who` is at most as large as the candidate
    obtain ⟨q', hq'⟩ := List.length_eq_one_iff.mp ((runOps_length lbs ubs site.ops a.pos t.proposals).trans hone)
    rw [hq'] at hq ⊢
    obtain rfl : q' = q := Option.some.inj hq
    exact List.forall_mem_singleton.mpr ⟨_, List.mem_set (List.getElem?_eq_some_iff.mp hw).1 _,
      accept_bound acc ha { pos := q', fit := f q', ref := 0 } (holderOf a) (holderOf a) 0⟩

theorem greedyUpdate_matched (ha : acc.okReplace = true) (hone : (site.ops.filter (· == .eval)).length = 1)
    (pop : List Ag) (ts : List Trial) (log : List (Pos × Int)) (h : Matched pop log) :
    Matched (greedyUpdate site acc lbs ubs f pop ts).1 (log ++ (greedyUpdate site acc lbs ubs f pop ts).2) := by
  induction ts generalizing pop log with
  | nil => rw [greedyUpdate, List.append_nil]; exact h
  | cons t ts ih =>
    simp only [greedyUpdate]
    rw [← List.append_assoc]
    exact ih _ _ (trialStep_matched site acc lbs ubs f ha hone pop t log h)

end

section
variable (p : TaskProg) (site : Site) (acc : AcceptRec) (dl du : List Int) (lbs ubs : List Int) (f : Pos → Int) (script : Nat → List Trial)

theorem matched_execEv (ha : acc.okReplace = true) (hone : (site.ops.filter (· == .eval)).length = 1)
    (hr : IsRule p.sweep false) (s : TaskSt) (ev : SEv) (hg : GInv lbs ubs f s) (h : Matched s.pop s.trialEvals) :
    Matched (p.execEv dl du (greedyOracle site acc lbs ubs f script) s ev).pop
      (p.execEv dl du (greedyOracle site acc lbs ubs f script) s ev).trialEvals := by
  cases ev with
  | update => exact greedyUpdate_matched site acc lbs ubs f ha hone s.pop (script s.k) s.trialEvals h
  | hook => exact h
  | post => exact h
  | dump => exact h
  | clipAll =>
    intro e he
    obtain ⟨a, ha', hle⟩ := h e he
    exact ⟨_, List.mem_map_of_mem ha', hle⟩
  | sweep =>
    intro e he
    obtain ⟨a, ha', hle⟩ := h e he
    simp only [TaskProg.execEv, sweepPop_pop_generic p.sweep hr]
    exact ⟨_, List.mem_map_of_mem ha', show f a.pos ≤ e.2 from (hg.settled a ha').2 ▸ hle⟩

/-- **C02 for greedy tasks, every objective call counted.**  When a task of `N` iterations ends (for every `N`: at the end of
    every iteration), the best agent's fitness is at most every value the objective has returned — to a sweep *or to a
    trial* — for every objective and every trial script. -/
theorem task_greedy_best_is_min (hg : Good true p.skel = true) (hb : BoundsOk lbs ubs) (hs : opsOk false site.ops = true)
    (ha : acc.okReplace = true) (hone : (site.ops.filter (· == .eval)).length = 1)
    (hc : ClipFixes p.clip dl du lbs ubs) (hr : IsRule p.sweep false)
    (hscript : ∀ k, ∀ t ∈ script k, ∀ q ∈ t.proposals, q.length = lbs.length)
    (pop : List Ag) (best : Ag) (h0 : ∀ a ∈ pop, InBox lbs ubs a.pos) (N : Nat) :
    let s := p.runTask dl du (greedyOracle site acc lbs ubs f script) (TaskSt.start pop best) N
    (∀ e ∈ s.evals, s.best.fit ≤ e.2) ∧ (∀ e ∈ s.trialEvals, s.best.fit ≤ e.2) := by
  have hk : BestKept (greedyOracle site acc lbs ubs f script) := ⟨fun _ _ => rfl, fun _ _ => rfl, fun _ _ => rfl⟩
  refine ⟨(task_best p dl du _ false hr hk pop best N).1, fun e he => ?_⟩
  -- every trial value is matched by a population member at all times …
  have hg0 := task_greedy p site acc dl du lbs ubs f script hg hb hs ha hc hr hscript pop best h0 0
  rw [runTask_zero, (good_pattern true p.skel hg).1] at hg0
  obtain ⟨a, ha', hle⟩ := (runTask_inv p dl du _ hg
    (fun s => GInv lbs ubs f s ∧ Matched s.pop s.trialEvals)
    (fun ev s h => ⟨ginv_execEv p site acc dl du lbs ubs f script hb hs ha hc hr hscript s ev h.1,
      matched_execEv p site acc dl du lbs ubs f script ha hone hr s ev h.1 h.2⟩)
    (TaskSt.start pop best) ⟨hg0, List.forall_mem_nil _⟩ N).2 e he
  -- … and when the task ends the best agent is below every member: the last sweep put it there, and what follows a sweep
  -- (post steps, the dump) touches neither
  refine Int.le_trans (runTask_end p dl du (greedyOracle site acc lbs ubs f script) hg (fun s => ∀ a ∈ s.pop, s.best.fit ≤ a.fit)
    (fun s => sweepPop_covers p.sweep hr dl du f s.pop s.best s.fresh) (fun ev hev s h => ?_) _ N a ha') hle
  rcases hev with rfl | rfl <;> exact h

end

end Task
end Opy
