import OpyVerif.Model.Effects
/-!
The call sites of the library that can read anything besides their arguments, as the translator lists them
from every module (`Generated/EffectsDefs.lean`), and the primitive of the effect signature of
`Model/Effects.lean` each of them is.  `Proofs/C05.lean` proves that programs over that signature depend on
the world only through the consumed generator stream (and the clock, for the `time` entry);
`sites_in_signature` says every site the source contains is one of those primitives, or file access by
`History.save/load`, which no optimisation task performs.
-/
namespace Opy

/-- the primitive a call site is (`none`: not part of the signature) -/
inductive EffKind where
  | uniform | normal | choice | clock | fileIO
deriving DecidableEq, Repr

def effKindOf (call : String) : Option EffKind :=
  if call = "np.random.uniform" then some .uniform
  else if call = "np.random.normal" then some .normal
  else if call = "np.random.choice" then some .choice
  else if call = "time.time" then some .clock
  else if call = "open" then some .fileIO
  else none

namespace Expected
def effectSites : List (String × String × String) := [
  ("opytimizer.math.general", "tournament_selection", "np.random.choice"),
  ("opytimizer.math.random", "generate_gaussian_random_number", "np.random.normal"),
  ("opytimizer.math.random", "generate_uniform_random_number", "np.random.uniform"),
  ("opytimizer.opytimizer", "Opytimizer.start", "time.time"),
  ("opytimizer.utils.history", "History.load", "open"),
  ("opytimizer.utils.history", "History.save", "open")
]
end Expected

/-- every site is a primitive of the signature; the clock is read only by `Opytimizer.start`; files are touched
    only by `History.save/load` -/
theorem sites_in_signature :
    Expected.effectSites.all (fun s => (effKindOf s.2.2).isSome) = true ∧
    (Expected.effectSites.filter (fun s => effKindOf s.2.2 == some .clock)).map (·.2.1) = ["Opytimizer.start"] ∧
    (Expected.effectSites.filter (fun s => effKindOf s.2.2 == some .fileIO)).map (·.2.1) = ["History.load", "History.save"] := by
  decide +kernel

end Opy
