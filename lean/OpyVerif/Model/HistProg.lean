import OpyVerif.Model.History
/-!
`History.get` and `Opytimizer.start` as the translator reads them (the remaining methods of the history path that were
modelled by hand only): which checks run, in which order, on what, and what is returned.  A well-formed record *is* the
model (`get`, `startTask`); anything else has no meaning here and the regenerated obligation fails.
-/
namespace Opy

structure GetProg where
  /-- `if not isinstance(index, tuple): raise e.TypeError(…)`, before anything else -/
  typeGuardFirst : Bool
  /-- `attr = np.asarray(getattr(self, key))` with the `ValueError` → `dtype=object` fallback for ragged records -/
  arrayWithObjectFallback : Bool
  /-- `if attr.ndim - 1 != len(index): raise e.SizeError(…)` -/
  sizeGuard : Bool
  /-- `attr = attr[(slice(None),) + index]`: every record, then the index path -/
  sliceAllThenIndex : Bool
  /-- `attr = np.hstack(attr)` and that is what is returned -/
  stacksAndReturns : Bool
  extraStmts : Nat
deriving Repr, DecidableEq

def GetProg.ok (p : GetProg) : Bool :=
  p.typeGuardFirst && p.arrayWithObjectFallback && p.sizeGuard && p.sliceAllThenIndex && p.stacksAndReturns && p.extraStmts == 0

def GetProg.run (p : GetProg) (records : List Rec) (isTuple : Bool) (index : List Nat) : Option (Except GetErr Rec) :=
  if p.ok then some (get records isTuple index) else none

structure StartProg where
  /-- `start = time.time()` before the run -/
  clockBefore : Bool
  /-- `self.optimizer.run(self.space, self.function, store_best_only, pre_evaluation_hook)`: the task's own components
      and the caller's two arguments, in this order -/
  runsWithOwnComponents : Bool
  passesFlagAndHook : Bool
  /-- `end = time.time()` after the run -/
  clockAfter : Bool
  /-- `history.dump(time=end - start)` on the history the run returned -/
  dumpsElapsed : Bool
  returnsThatHistory : Bool
  extraStmts : Nat
deriving Repr, DecidableEq

def StartProg.ok (p : StartProg) : Bool :=
  p.clockBefore && p.runsWithOwnComponents && p.passesFlagAndHook && p.clockAfter && p.dumpsElapsed && p.returnsThatHistory
    && p.extraStmts == 0

/-- what `start()` returns: the history of the run with one more `time` record, the difference of the two clock readings -/
def startTask (historyKeys : List String) (h : Hist) (t0 t1 : Int) : Hist :=
  dump historyKeys h [("time", .num (t1 - t0))]

def StartProg.run (p : StartProg) (historyKeys : List String) (h : Hist) (t0 t1 : Int) : Option Hist :=
  if p.ok then some (startTask historyKeys h t0 t1) else none

namespace Expected
def getProg : GetProg :=
  { typeGuardFirst := true, arrayWithObjectFallback := true, sizeGuard := true, sliceAllThenIndex := true,
    stacksAndReturns := true, extraStmts := 0 }
def startProg : StartProg :=
  { clockBefore := true, runsWithOwnComponents := true, passesFlagAndHook := true, clockAfter := true, dumpsElapsed := true,
    returnsThatHistory := true, extraStmts := 0 }
end Expected

theorem getProg_is_get (records : List Rec) (isTuple : Bool) (index : List Nat) :
    Expected.getProg.run records isTuple index = some (get records isTuple index) := rfl

theorem startProg_is_startTask (keys : List String) (h : Hist) (t0 t1 : Int) :
    Expected.startProg.run keys h t0 t1 = some (startTask keys h t0 t1) := rfl

/-- the elapsed-time entry: exactly one more `time` record, whatever `store_best_only` is (time is not a HISTORY_KEYS
    entry) -/
theorem startTask_time (keys : List String) (h : Hist) (t0 t1 : Int) (hk : keys.contains "time" = false) :
    (startTask keys h t0 t1).attrs = appendAttr h.attrs "time" (.num (t1 - t0)) := by
  rw [startTask, dump, List.foldl_cons, List.foldl_nil, dump1, hk]; rfl

end Opy
