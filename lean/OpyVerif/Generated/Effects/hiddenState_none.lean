-- GENERATED by harness/translate_loops.py: obligations re-decided on every build. Do not edit.
import OpyVerif.Generated.EffectsDefs
import OpyVerif.Model.EffectSites
namespace Opy.Gen
open Opy
/-- no function of the library keeps state between calls outside its arguments and the objects it is called on: what a
    call returns cannot depend on which calls, tasks or objects came before it in the process -/
theorem hiddenState_none : hiddenState = [] := rfl
end Opy.Gen
