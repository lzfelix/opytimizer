-- GENERATED by harness/translate_loops.py: obligations re-decided on every build. Do not edit.
import OpyVerif.Generated.EffectsDefs
import OpyVerif.Model.EffectSites
namespace Opy.Gen
open Opy
/-- the library's only sources of non-determinism are the NumPy global generator (through the wrappers of
    math/random, `np.random.choice` in tournament selection, and the seeding-free calls below), the wall clock
    in `Opytimizer.start`, and file access in `History.save/load` and logging -/
theorem effectSites_eq : effectSites = Expected.effectSites := rfl
end Opy.Gen
