-- GENERATED by harness/translate_loops.py: obligations re-decided on every build. Do not edit.
import OpyVerif.Generated.GrowDefs
namespace Opy.Gen
open Opy
/-- `TreeSpace.grow` reads as the record `Proofs/GrowProg.growProg_is_grow` proves to be `PNode.grow` -/
theorem growProg_eq : growProg = Expected.growProg := rfl
end Opy.Gen
