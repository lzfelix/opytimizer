-- GENERATED by harness/translate_loops.py: obligations re-decided on every build. Do not edit.
import OpyVerif.Generated.PropsDefs
namespace Opy.Gen
open Opy
/-- `_properties` reads as the counter program `Proofs/BfsProg.bfsProg_is_properties` proves to be `PNode.properties` -/
theorem bfsProg_eq : bfsProg = Expected.bfsProg := rfl
end Opy.Gen
