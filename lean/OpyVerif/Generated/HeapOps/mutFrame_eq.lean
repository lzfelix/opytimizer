-- GENERATED by harness/translate_loops.py: obligations re-decided on every build. Do not edit.
import OpyVerif.Generated.HeapOpsDefs
namespace Opy.Gen
open Opy
theorem mutFrame_eq : mutFrame = Expected.mutFrame := rfl
end Opy.Gen
