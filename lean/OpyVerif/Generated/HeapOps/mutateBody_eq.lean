-- GENERATED by harness/translate_loops.py: obligations re-decided on every build. Do not edit.
import OpyVerif.Generated.HeapOpsDefs
namespace Opy.Gen
open Opy
/-- the field writes of `GP._mutate` read as the program `Proofs/Heap.mutateBody_spec` is about -/
theorem mutateBody_eq : mutateBody = Expected.mutateBody := rfl
end Opy.Gen
