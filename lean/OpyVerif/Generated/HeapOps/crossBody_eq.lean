-- GENERATED by harness/translate_loops.py: obligations re-decided on every build. Do not edit.
import OpyVerif.Generated.HeapOpsDefs
namespace Opy.Gen
open Opy
/-- the field writes of `GP._cross` read as the program `Proofs/Heap.crossBody_spec` is about -/
theorem crossBody_eq : crossBody = Expected.crossBody := rfl
end Opy.Gen
