-- GENERATED by harness/translate_loops.py: obligations re-decided on every build. Do not edit.
import OpyVerif.Generated.PopLoopsDefs
namespace Opy.Gen
open Opy
/-- `GP._mutation` reads as the loop `Proofs/PopLoops.mutLoop_popOK` is about -/
theorem mutLoop_eq : mutLoop = Expected.mutLoop := rfl
end Opy.Gen
