-- GENERATED by harness/translate_loops.py: obligations re-decided on every build. Do not edit.
import OpyVerif.Generated.PopLoopsDefs
namespace Opy.Gen
open Opy
/-- `GP._crossover` reads as the loop `Proofs/PopLoops.crossLoop_popOK` is about -/
theorem crossLoop_eq : crossLoop = Expected.crossLoop := rfl
end Opy.Gen
