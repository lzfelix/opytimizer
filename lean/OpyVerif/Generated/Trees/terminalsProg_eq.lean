-- GENERATED by harness/translate_loops.py: obligations re-decided on every build. Do not edit.
import OpyVerif.Generated.TreesDefs
namespace Opy.Gen
open Opy
/-- `TreeSpace._create_terminals` builds `n_terminals` separate agents -/
theorem terminalsProg_eq : terminalsProg = Expected.terminalsProg := rfl
end Opy.Gen
