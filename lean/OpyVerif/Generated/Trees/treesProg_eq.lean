-- GENERATED by harness/translate_loops.py: obligations re-decided on every build. Do not edit.
import OpyVerif.Generated.TreesDefs
namespace Opy.Gen
open Opy
/-- `TreeSpace._create_trees` grows `n_trees` trees one after the other and copies the first as best tree -/
theorem treesProg_eq : treesProg = Expected.treesProg := rfl
end Opy.Gen
