-- GENERATED by harness/translate_loops.py: obligations re-decided on every build. Do not edit.
import OpyVerif.Generated.InitDefs
namespace Opy.Gen
open Opy
theorem searchInit_eq : searchInit = Expected.searchInit := rfl
end Opy.Gen
