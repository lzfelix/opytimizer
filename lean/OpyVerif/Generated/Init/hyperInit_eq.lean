-- GENERATED by harness/translate_loops.py: obligations re-decided on every build. Do not edit.
import OpyVerif.Generated.InitDefs
namespace Opy.Gen
open Opy
theorem hyperInit_eq : hyperInit = Expected.hyperInit := rfl
end Opy.Gen
