-- GENERATED by harness/translate_loops.py: obligations re-decided on every build. Do not edit.
import OpyVerif.Generated.InitDefs
namespace Opy.Gen
open Opy
/-- `TreeSpace._initialize_terminals` is the same loop over `self.terminals` -/
theorem terminalsInit_eq : terminalsInit = Expected.searchInit := rfl
end Opy.Gen
