-- GENERATED by harness/translate.py from every @x.setter of /repo/opytimizer. Do not edit.
import OpyVerif.Generated.GuardsDefs
namespace Opy.Gen
open Opy.G
/-- the same attributes are validated, each by as many guards, as when the framework was written -/
theorem guardedAttrs_eq : guardedAttrs = Opy.Expected.guardedAttrs := rfl
end Opy.Gen
