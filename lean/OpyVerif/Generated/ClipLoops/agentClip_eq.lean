-- GENERATED by harness/translate_loops.py: obligations re-decided on every build. Do not edit.
import OpyVerif.Generated.ClipLoopsDefs
namespace Opy.Gen
open Opy
/-- `Agent.check_limits` reads as the loop that `Proofs/ClipProg.agentClip_run` proves to be `clipPos` -/
theorem agentClip_eq : agentClip = Expected.agentClip := rfl
end Opy.Gen
