-- GENERATED by harness/translate_loops.py: obligations re-decided on every build. Do not edit.
import OpyVerif.Generated.ClipLoopsDefs
namespace Opy.Gen
open Opy
/-- `HyperSpace.check_limits` reads as the loop proved to clip to the unit box -/
theorem hyperClip_eq : hyperClip = Expected.hyperClip := rfl
end Opy.Gen
