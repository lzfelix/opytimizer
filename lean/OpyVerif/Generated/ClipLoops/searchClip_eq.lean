-- GENERATED by harness/translate_loops.py: obligations re-decided on every build. Do not edit.
import OpyVerif.Generated.ClipLoopsDefs
namespace Opy.Gen
open Opy
/-- `SearchSpace.check_limits` reads as the loop proved to be `clipAll` -/
theorem searchClip_eq : searchClip = Expected.searchClip := rfl
end Opy.Gen
