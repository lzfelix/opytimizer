-- GENERATED by harness/translate_loops.py: obligations re-decided on every build. Do not edit.
import OpyVerif.Generated.ClipLoopsDefs
namespace Opy.Gen
open Opy
/-- agents get their bounds and first positions exactly where `Model/Clip.initSearch` / `initHyper` say:
    unit bounds from `Agent.__init__`, the declared bounds copied row by row in Search/TreeSpace, nothing in HyperSpace -/
theorem boundWrites_eq : boundWrites = Expected.boundWrites := rfl
end Opy.Gen
