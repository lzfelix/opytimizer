-- GENERATED by harness/translate_formulas.py: obligations re-decided on every build. Do not edit.
import OpyVerif.Generated.FormulasDefs
namespace Opy.Gen
open Opy
theorem sched_fa_alpha_eq : scheduleExprs.lookup "fa_alpha" = Expected.schedules.lookup "fa_alpha" := rfl
end Opy.Gen
