-- GENERATED by harness/translate_formulas.py: obligations re-decided on every build. Do not edit.
import OpyVerif.Generated.FormulasDefs
namespace Opy.Gen
open Opy
theorem sched_wca_dmax_eq : scheduleExprs.lookup "wca_dmax" = Expected.schedules.lookup "wca_dmax" := rfl
end Opy.Gen
