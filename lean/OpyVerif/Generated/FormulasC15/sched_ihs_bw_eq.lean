-- GENERATED by harness/translate_formulas.py: obligations re-decided on every build. Do not edit.
import OpyVerif.Generated.FormulasDefs
namespace Opy.Gen
open Opy
theorem sched_ihs_bw_eq : scheduleExprs.lookup "ihs_bw" = Expected.schedules.lookup "ihs_bw" := rfl
end Opy.Gen
