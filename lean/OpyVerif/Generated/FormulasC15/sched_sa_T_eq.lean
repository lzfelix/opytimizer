-- GENERATED by harness/translate_formulas.py: obligations re-decided on every build. Do not edit.
import OpyVerif.Generated.FormulasDefs
namespace Opy.Gen
open Opy
theorem sched_sa_T_eq : scheduleExprs.lookup "sa_T" = Expected.schedules.lookup "sa_T" := rfl
end Opy.Gen
