-- GENERATED by harness/translate_formulas.py: obligations re-decided on every build. Do not edit.
import OpyVerif.Generated.FormulasDefs
namespace Opy.Gen
open Opy
theorem sched_aiwpso_w_eq : scheduleExprs.lookup "aiwpso_w" = Expected.schedules.lookup "aiwpso_w" := rfl
end Opy.Gen
