-- GENERATED by harness/translate_formulas.py: obligations re-decided on every build. Do not edit.
import OpyVerif.Generated.FormulasDefs
namespace Opy.Gen
open Opy
theorem sched_ihs_PAR_eq : scheduleExprs.lookup "ihs_PAR" = Expected.schedules.lookup "ihs_PAR" := rfl
end Opy.Gen
