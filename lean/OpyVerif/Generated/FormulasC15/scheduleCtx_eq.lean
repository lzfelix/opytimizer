-- GENERATED by harness/translate_formulas.py: obligations re-decided on every build. Do not edit.
import OpyVerif.Generated.FormulasDefs
namespace Opy.Gen
open Opy
/-- every schedule assignment is unconditional inside its method (IHS: inside the iteration loop) -/
theorem scheduleCtx_eq : scheduleCtx = Expected.scheduleCtx := rfl
end Opy.Gen
