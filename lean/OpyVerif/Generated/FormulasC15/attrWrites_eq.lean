-- GENERATED by harness/translate_formulas.py: obligations re-decided on every build. Do not edit.
import OpyVerif.Generated.FormulasDefs
namespace Opy.Gen
open Opy
/-- the only writes to optimizer attributes after construction are the five self-adapting schedules -/
theorem attrWrites_eq : attrWrites = Expected.attrWrites := rfl
end Opy.Gen
