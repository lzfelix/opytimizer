-- GENERATED by harness/translate_formulas.py: obligations re-decided on every build. Do not edit.
import OpyVerif.Generated.FormulasDefs
namespace Opy.Gen
open Opy
theorem weightedRule_eq : weightedRule = Expected.weightedRule ∧ weightedBody = Expected.weightedBody := ⟨rfl, rfl⟩
end Opy.Gen
