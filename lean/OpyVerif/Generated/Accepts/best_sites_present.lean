-- GENERATED by harness/translate.py from every fitness comparison of /repo/opytimizer. Do not edit.
import OpyVerif.Generated.AcceptsDefs
namespace Opy.Gen
open Opy
/-- the three sweeps update the best agent (the sites exist) -/
theorem best_sites_present : (acceptSites.filter (fun r => r.role == .best)).map (·.func) = ["Optimizer._evaluate", "GP._evaluate", "PSO._evaluate"] := by rfl
end Opy.Gen
