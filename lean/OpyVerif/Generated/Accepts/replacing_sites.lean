-- GENERATED by harness/translate.py from every fitness comparison of /repo/opytimizer. Do not edit.
import OpyVerif.Generated.AcceptsDefs
namespace Opy.Gen
open Opy
/-- … and the greedy optimisers keep their acceptance tests -/
theorem replacing_sites : (acceptSites.filter (fun r => r.role != .best && r.role != .other)).map (·.func) = ["ABC._evaluate_location", "ABC._send_scout", "BHA._update_position", "CS._evaluate_nests", "FPA._update", "HS._update", "PSO._evaluate", "SA._update"] := by rfl
end Opy.Gen
