-- GENERATED by harness/translate_formulas.py: obligations re-decided on every build. Do not edit.
import OpyVerif.Generated.FormulasDefs
namespace Opy.Gen
open Opy
theorem gaussianWrapper_eq : gaussianWrapper = Expected.gaussianWrapper := rfl
end Opy.Gen
