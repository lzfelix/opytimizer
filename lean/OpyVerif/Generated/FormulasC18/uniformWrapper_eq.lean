-- GENERATED by harness/translate_formulas.py: obligations re-decided on every build. Do not edit.
import OpyVerif.Generated.FormulasDefs
namespace Opy.Gen
open Opy
theorem uniformWrapper_eq : uniformWrapper = Expected.uniformWrapper := rfl
end Opy.Gen
