-- GENERATED by harness/translate_loops.py: obligations re-decided on every build. Do not edit.
import OpyVerif.Generated.ReproDefs
namespace Opy.Gen
open Opy
/-- `GP._reproduction` reads as the loop `Proofs/ReproProg.reproLoop_is_reproduction` proves to be `PNode.reproduction` -/
theorem reproLoop_eq : reproLoop = Expected.reproLoop := rfl
end Opy.Gen
