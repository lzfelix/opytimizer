-- GENERATED by harness/translate_loops.py: obligations re-decided on every build. Do not edit.
import OpyVerif.Generated.PersistDefs
namespace Opy.Gen
open Opy
/-- `History.save` writes the whole object to the file named by its argument -/
theorem saveProg_eq : saveProg = Expected.saveProg := rfl
end Opy.Gen
