-- GENERATED by harness/translate_loops.py: obligations re-decided on every build. Do not edit.
import OpyVerif.Generated.PersistDefs
namespace Opy.Gen
open Opy
/-- `History.load` reads the file named by its argument and merges the loaded attribute dictionary -/
theorem loadProg_eq : loadProg = Expected.loadProg := rfl
end Opy.Gen
