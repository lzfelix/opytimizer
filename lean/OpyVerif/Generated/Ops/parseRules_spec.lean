-- GENERATED by harness/translate.py from core/node._evaluate and utils/history.History. Do not edit.
import OpyVerif.Generated.OpsDefs
namespace Opy.Gen
open Opy
/-- `_parse` has a rule for every HISTORY_KEYS entry and stores values (`.tolist()`), never references -/
theorem parseRules_spec : parseRules.map (·.1) = historyKeys ∧ parseRules.all (·.2) = true := ⟨by rfl, by rfl⟩
end Opy.Gen
