-- GENERATED by harness/translate.py from core/node._evaluate and utils/history.History. Do not edit.
import OpyVerif.Generated.OpsDefs
namespace Opy.Gen
open Opy
/-- the operator chain of `node._evaluate` is the table `Model/TreeEval` implements -/
theorem opTable_eq : opTable = expectedOps := rfl
end Opy.Gen
