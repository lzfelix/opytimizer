-- GENERATED by harness/translate.py from core/node._evaluate and utils/history.History. Do not edit.
import OpyVerif.Generated.OpsDefs
namespace Opy.Gen
open Opy
theorem evalProg_eq : evalProg = Expected.evalProg := rfl
end Opy.Gen
