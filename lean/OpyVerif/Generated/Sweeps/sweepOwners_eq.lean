-- GENERATED by harness/translate_loops.py: obligations re-decided on every build. Do not edit.
import OpyVerif.Generated.SweepsDefs
namespace Opy.Gen
open Opy
/-- no other optimizer overrides the sweep -/
theorem sweepOwners_eq : sweepOwners = ["GP", "Optimizer", "PSO"] := by rfl
end Opy.Gen
