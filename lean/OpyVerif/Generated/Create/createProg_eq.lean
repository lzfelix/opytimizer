-- GENERATED by harness/translate_loops.py: obligations re-decided on every build. Do not edit.
import OpyVerif.Generated.CreateDefs
namespace Opy.Gen
open Opy
/-- `Space._create_agents` reads as the program `Proofs/CreateProg.createProg_spec` is about -/
theorem createProg_eq : createProg = Expected.createProg := rfl
end Opy.Gen
