-- GENERATED by harness/translate_loops.py: obligations re-decided on every build. Do not edit.
import OpyVerif.Generated.CreateDefs
namespace Opy.Gen
open Opy
/-- `Space._build` stores the bounds, installs what `_create_agents` returns and only then declares the space built -/
theorem buildProg_eq : buildProg = Expected.buildProg := rfl
end Opy.Gen
