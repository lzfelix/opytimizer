-- GENERATED by harness/translate.py from /repo/opytimizer/utils/constants.py. Do not edit.
import OpyVerif.Generated.ConstantsDefs
namespace Opy.Gen
/-- the operator table is the one `Model/TreeEval` hard-codes by position -/
theorem nArgs_names : nArgs.map (·.1) = ["SUM", "SUB", "MUL", "DIV", "EXP", "SQRT", "LOG", "ABS", "SIN", "COS"] := by rfl
end Opy.Gen
