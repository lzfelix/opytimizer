-- GENERATED by harness/translate.py from /repo/opytimizer/utils/constants.py. Do not edit.
import OpyVerif.Generated.ConstantsDefs
namespace Opy.Gen
theorem historyKeys_eq : historyKeys = ["agents", "best_agent", "local"] := by rfl
end Opy.Gen
