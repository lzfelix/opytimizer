-- GENERATED by harness/translate_loops.py: obligations re-decided on every build. Do not edit.
import OpyVerif.Generated.HistProgDefs
namespace Opy.Gen
open Opy
theorem startProg_eq : startProg = Expected.startProg := rfl
end Opy.Gen
