-- GENERATED by harness/translate_loops.py: obligations re-decided on every build. Do not edit.
import OpyVerif.Generated.HistProgDefs
namespace Opy.Gen
open Opy
theorem getProg_eq : getProg = Expected.getProg := rfl
end Opy.Gen
