-- GENERATED by harness/translate_formulas.py: obligations re-decided on every build. Do not edit.
import OpyVerif.Generated.SelectDefs
namespace Opy.Gen
open Opy
/-- `generate_bernoulli_distribution` reads as the program proved to be `bernoulli` -/
theorem bernProg_eq : bernProg = Expected.bernProg := rfl
end Opy.Gen
