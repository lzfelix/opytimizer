-- GENERATED by harness/translate_formulas.py: obligations re-decided on every build. Do not edit.
import OpyVerif.Generated.SelectDefs
namespace Opy.Gen
open Opy
/-- `tournament_selection` reads as the program `Proofs/SelectProg.tournProg_is_tournament` proves to be `tournament` -/
theorem tournProg_eq : tournProg = Expected.tournProg := rfl
end Opy.Gen
