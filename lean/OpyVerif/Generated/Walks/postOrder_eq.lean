-- GENERATED by harness/translate_loops.py: obligations re-decided on every build. Do not edit.
import OpyVerif.Generated.WalksDefs
namespace Opy.Gen
open Opy
/-- `Node.post_order` reads as the program `Proofs/NodeWalk.post_loop_eq` proves to be `postLoop` -/
theorem postOrder_eq : postOrderInit = .skip ∧ postOrderLoop = Expected.postOrderLoop := ⟨rfl, rfl⟩
end Opy.Gen
