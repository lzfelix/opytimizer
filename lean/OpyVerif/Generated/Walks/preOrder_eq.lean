-- GENERATED by harness/translate_loops.py: obligations re-decided on every build. Do not edit.
import OpyVerif.Generated.WalksDefs
namespace Opy.Gen
open Opy
/-- `Node.pre_order` reads as the program `Proofs/NodeWalk.pre_loop_eq` proves to be `preLoop` -/
theorem preOrder_eq : preOrderInit = Expected.preOrderInit ∧ preOrderLoop = Expected.preOrderLoop := ⟨rfl, rfl⟩
end Opy.Gen
