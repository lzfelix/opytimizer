-- GENERATED by harness/translate_loops.py: obligations re-decided on every build. Do not edit.
import OpyVerif.Generated.GPRunDefs
namespace Opy.Gen
open Opy
/-- `GP._update` calls the three operator loops in the order the task-level theorem assumes -/
theorem updateProg_eq : updateProg = Expected.updateProg := rfl
end Opy.Gen
