-- GENERATED by harness/translate_formulas.py: obligations re-decided on every build. Do not edit.
import OpyVerif.Generated.FormulasDefs
namespace Opy.Gen
open Opy
/-- `benchmark.styblinski_tang` as read from the source is the expression whose meaning `Proofs/Formulas` ties to `Model/Bench.styblinski_tang` -/
theorem bench_styblinski_tang_eq : benchExprs.lookup "styblinski_tang" = Expected.bench.lookup "styblinski_tang" := rfl
end Opy.Gen
