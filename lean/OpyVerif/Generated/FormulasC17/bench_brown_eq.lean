-- GENERATED by harness/translate_formulas.py: obligations re-decided on every build. Do not edit.
import OpyVerif.Generated.FormulasDefs
namespace Opy.Gen
open Opy
/-- `benchmark.brown` as read from the source is the expression whose meaning `Proofs/Formulas` ties to `Model/Bench.brown` -/
theorem bench_brown_eq : benchExprs.lookup "brown" = Expected.bench.lookup "brown" := rfl
end Opy.Gen
