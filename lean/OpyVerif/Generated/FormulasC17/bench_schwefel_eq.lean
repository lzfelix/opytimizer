-- GENERATED by harness/translate_formulas.py: obligations re-decided on every build. Do not edit.
import OpyVerif.Generated.FormulasDefs
namespace Opy.Gen
open Opy
/-- `benchmark.schwefel` as read from the source is the expression whose meaning `Proofs/Formulas` ties to `Model/Bench.schwefel` -/
theorem bench_schwefel_eq : benchExprs.lookup "schwefel" = Expected.bench.lookup "schwefel" := rfl
end Opy.Gen
