-- GENERATED by harness/translate_formulas.py: obligations re-decided on every build. Do not edit.
import OpyVerif.Generated.FormulasDefs
namespace Opy.Gen
open Opy
/-- `benchmark.sphere` as read from the source is the expression whose meaning `Proofs/Formulas` ties to `Model/Bench.sphere` -/
theorem bench_sphere_eq : benchExprs.lookup "sphere" = Expected.bench.lookup "sphere" := rfl
end Opy.Gen
