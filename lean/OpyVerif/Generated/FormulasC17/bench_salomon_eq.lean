-- GENERATED by harness/translate_formulas.py: obligations re-decided on every build. Do not edit.
import OpyVerif.Generated.FormulasDefs
namespace Opy.Gen
open Opy
/-- `benchmark.salomon` as read from the source is the expression whose meaning `Proofs/Formulas` ties to `Model/Bench.salomon` -/
theorem bench_salomon_eq : benchExprs.lookup "salomon" = Expected.bench.lookup "salomon" := rfl
end Opy.Gen
