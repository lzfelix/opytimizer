-- GENERATED by harness/translate_formulas.py: obligations re-decided on every build. Do not edit.
import OpyVerif.Generated.FormulasDefs
namespace Opy.Gen
open Opy
/-- `benchmark.quintic` as read from the source is the expression whose meaning `Proofs/Formulas` ties to `Model/Bench.quintic` -/
theorem bench_quintic_eq : benchExprs.lookup "quintic" = Expected.bench.lookup "quintic" := rfl
end Opy.Gen
