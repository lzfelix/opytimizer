-- GENERATED by harness/translate_formulas.py: obligations re-decided on every build. Do not edit.
import OpyVerif.Generated.FormulasDefs
namespace Opy.Gen
open Opy
/-- `benchmark.csendes` as read from the source is the expression whose meaning `Proofs/Formulas` ties to `Model/Bench.csendes` -/
theorem bench_csendes_eq : benchExprs.lookup "csendes" = Expected.bench.lookup "csendes" := rfl
end Opy.Gen
