-- GENERATED by harness/translate_formulas.py: obligations re-decided on every build. Do not edit.
import OpyVerif.Generated.FormulasDefs
namespace Opy.Gen
open Opy
/-- `benchmark.exponential` as read from the source is the expression whose meaning `Proofs/Formulas` ties to `Model/Bench.exponential` -/
theorem bench_exponential_eq : benchExprs.lookup "exponential" = Expected.bench.lookup "exponential" := rfl
end Opy.Gen
