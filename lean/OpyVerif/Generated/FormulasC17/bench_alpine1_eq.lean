-- GENERATED by harness/translate_formulas.py: obligations re-decided on every build. Do not edit.
import OpyVerif.Generated.FormulasDefs
namespace Opy.Gen
open Opy
/-- `benchmark.alpine1` as read from the source is the expression whose meaning `Proofs/Formulas` ties to `Model/Bench.alpine1` -/
theorem bench_alpine1_eq : benchExprs.lookup "alpine1" = Expected.bench.lookup "alpine1" := rfl
end Opy.Gen
