-- GENERATED by harness/translate_formulas.py: obligations re-decided on every build. Do not edit.
import OpyVerif.Generated.FormulasDefs
namespace Opy.Gen
open Opy
/-- `benchmark.chung_reynolds` as read from the source is the expression whose meaning `Proofs/Formulas` ties to `Model/Bench.chung_reynolds` -/
theorem bench_chung_reynolds_eq : benchExprs.lookup "chung_reynolds" = Expected.bench.lookup "chung_reynolds" := rfl
end Opy.Gen
