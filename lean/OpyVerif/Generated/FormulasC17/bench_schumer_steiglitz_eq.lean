-- GENERATED by harness/translate_formulas.py: obligations re-decided on every build. Do not edit.
import OpyVerif.Generated.FormulasDefs
namespace Opy.Gen
open Opy
/-- `benchmark.schumer_steiglitz` as read from the source is the expression whose meaning `Proofs/Formulas` ties to `Model/Bench.schumer_steiglitz` -/
theorem bench_schumer_steiglitz_eq : benchExprs.lookup "schumer_steiglitz" = Expected.bench.lookup "schumer_steiglitz" := rfl
end Opy.Gen
