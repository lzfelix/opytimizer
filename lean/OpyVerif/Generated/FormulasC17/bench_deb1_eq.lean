-- GENERATED by harness/translate_formulas.py: obligations re-decided on every build. Do not edit.
import OpyVerif.Generated.FormulasDefs
namespace Opy.Gen
open Opy
/-- `benchmark.deb1` as read from the source is the expression whose meaning `Proofs/Formulas` ties to `Model/Bench.deb1` -/
theorem bench_deb1_eq : benchExprs.lookup "deb1" = Expected.bench.lookup "deb1" := rfl
end Opy.Gen
