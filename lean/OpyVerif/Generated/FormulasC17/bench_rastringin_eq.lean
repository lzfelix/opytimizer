-- GENERATED by harness/translate_formulas.py: obligations re-decided on every build. Do not edit.
import OpyVerif.Generated.FormulasDefs
namespace Opy.Gen
open Opy
/-- `benchmark.rastringin` as read from the source is the expression whose meaning `Proofs/Formulas` ties to `Model/Bench.rastringin` -/
theorem bench_rastringin_eq : benchExprs.lookup "rastringin" = Expected.bench.lookup "rastringin" := rfl
end Opy.Gen
