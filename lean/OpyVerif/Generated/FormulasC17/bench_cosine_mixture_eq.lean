-- GENERATED by harness/translate_formulas.py: obligations re-decided on every build. Do not edit.
import OpyVerif.Generated.FormulasDefs
namespace Opy.Gen
open Opy
/-- `benchmark.cosine_mixture` as read from the source is the expression whose meaning `Proofs/Formulas` ties to `Model/Bench.cosine_mixture` -/
theorem bench_cosine_mixture_eq : benchExprs.lookup "cosine_mixture" = Expected.bench.lookup "cosine_mixture" := rfl
end Opy.Gen
