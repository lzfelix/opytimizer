-- GENERATED by harness/translate_formulas.py: obligations re-decided on every build. Do not edit.
import OpyVerif.Generated.FormulasDefs
namespace Opy.Gen
open Opy
/-- `benchmark.alpine2` as read from the source is the expression whose meaning `Proofs/Formulas` ties to `Model/Bench.alpine2` -/
theorem bench_alpine2_eq : benchExprs.lookup "alpine2" = Expected.bench.lookup "alpine2" := rfl
end Opy.Gen
