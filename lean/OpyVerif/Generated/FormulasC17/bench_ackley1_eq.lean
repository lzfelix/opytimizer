-- GENERATED by harness/translate_formulas.py: obligations re-decided on every build. Do not edit.
import OpyVerif.Generated.FormulasDefs
namespace Opy.Gen
open Opy
/-- `benchmark.ackley1` as read from the source is the expression whose meaning `Proofs/Formulas` ties to `Model/Bench.ackley1` -/
theorem bench_ackley1_eq : benchExprs.lookup "ackley1" = Expected.bench.lookup "ackley1" := rfl
end Opy.Gen
