-- GENERATED by harness/translate_formulas.py: obligations re-decided on every build. Do not edit.
import OpyVerif.Generated.FormulasDefs
namespace Opy.Gen
open Opy
/-- no benchmark function was added or dropped -/
theorem bench_names_eq : benchExprs.map (·.1) = Expected.bench.map (·.1) := rfl
end Opy.Gen
