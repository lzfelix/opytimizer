-- GENERATED by harness/translate_formulas.py: obligations re-decided on every build. Do not edit.
import OpyVerif.Generated.FormulasDefs
namespace Opy.Gen
open Opy
/-- `benchmark.deb2` as read from the source is the expression whose meaning `Proofs/Formulas` ties to `Model/Bench.deb2` -/
theorem bench_deb2_eq : benchExprs.lookup "deb2" = Expected.bench.lookup "deb2" := rfl
end Opy.Gen
