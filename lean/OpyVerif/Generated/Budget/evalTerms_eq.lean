-- GENERATED by harness/translate_loops.py: obligations re-decided on every build. Do not edit.
import OpyVerif.Generated.BudgetDefs
namespace Opy.Gen
open Opy
/-- the objective call sites of every optimizer and the loops around them are the ones the budget theorems
    of `Proofs/Budget.lean` are stated for -/
theorem evalTerms_eq : evalTerms = Expected.evalTerms := rfl
end Opy.Gen
