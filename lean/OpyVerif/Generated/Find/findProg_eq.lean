-- GENERATED by harness/translate_loops.py: obligations re-decided on every build. Do not edit.
import OpyVerif.Generated.FindDefs
namespace Opy.Gen
open Opy
/-- `Node.find_node` reads as the decision program `Proofs/FindProg.findProg_is_findNode` proves to be `findNode` -/
theorem findProg_eq : findProg = Expected.findProg := rfl
end Opy.Gen
